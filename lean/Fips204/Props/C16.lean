import Fips204.Gen.Types
import Fips204.Gen.Consts
/-!
# C16 — key material is erased when keys are dropped

Thin model (level `other`): the declaration inventory `Gen.typeDecls` (regenerated from `src/types.rs`)
plus layout arithmetic.  Inside the model: every struct reachable from the two key types derives `Zeroize`
and `ZeroizeOnDrop`, skips no field, has only `u8` / `i32` / struct-array leaves, and for all `K, L` the
declared fields tile the object exactly (size = sum of field sizes, a multiple of the alignment 8), so every
byte offset belongs to a field that the derived drop glue overwrites.  *Not modelled*: that the `zeroize`
derive and crate do what they document and that the compiler keeps the volatile writes - that part is observed
on every run (`drop_check`: all `size_of` bytes read back after an in-place drop).
-/
namespace Fips204.Props.C16
open Fips204.Gen

def lookup (n : String) : Option TypeDecl := typeDecls.find? (fun d => d.name == n)

/-- a field's element type is a primitive or a declared struct -/
def leafOk (f : FieldDecl) : Bool := f.ty == "u8" || f.ty == "i32" || (lookup f.ty).isSome

/-- a type erases all of itself on drop (as far as declarations can tell) -/
def erases (d : TypeDecl) : Bool :=
  d.derives.contains "Zeroize" && d.derives.contains "ZeroizeOnDrop" && d.fields.all (fun f => !f.skip && leafOk f)

/-- structs reachable from the two key types -/
def reachable : List String := ["PrivateKey", "PublicKey", "T", "R"]

theorem all_reachable_types_erase :
    reachable.all (fun n => match lookup n with | some d => erases d | none => false) = true := by decide +kernel

/-- every struct mentioned by a field of a reachable struct is itself in the reachable list (closure) -/
theorem reachable_closed :
    reachable.all (fun n => match lookup n with
      | some d => d.fields.all (fun f => f.ty == "u8" || f.ty == "i32" || reachable.contains f.ty)
      | none => false) = true := by decide +kernel

/-- size of an element type in bytes -/
def elemSize : String → Nat
  | "u8" => 1 | "i32" => 4 | "T" => 1024 | "R" => 1024 | _ => 0

def countOf (k l : Nat) (f : FieldDecl) : Nat :=
  if f.countVar == "K" then k else if f.countVar == "L" then l else f.countLit

/-- sum of the declared field sizes for concrete K, L -/
def fieldsSize (d : TypeDecl) (k l : Nat) : Nat := (d.fields.map (fun f => elemSize f.ty * countOf k l f)).foldl (· + ·) 0

/-- layout: for every K, L the fields of the key structs tile a multiple of the alignment: there is no padding byte
    anywhere (so "every field is zeroed" is "every byte is zeroed"), and the totals are the expected closed forms -/
theorem private_key_layout (k l : Nat) :
    (lookup "PrivateKey").map (fun d => fieldsSize d k l) = some (128 + 1024 * (l + 2 * k)) ∧ (128 + 1024 * (l + 2 * k)) % 8 = 0 := by
  refine ⟨?_, by omega⟩
  simp only [lookup, typeDecls, List.find?, fieldsSize, elemSize, countOf]
  simp
  omega

theorem public_key_layout (k l : Nat) :
    (lookup "PublicKey").map (fun d => fieldsSize d k l) = some (96 + 1024 * k) ∧ (96 + 1024 * k) % 8 = 0 := by
  refine ⟨?_, by omega⟩
  simp only [lookup, typeDecls, List.find?, fieldsSize, elemSize, countOf]
  simp
  try omega

theorem poly_layout : (lookup "T").map (fun d => fieldsSize d 0 0) = some 1024 ∧ (lookup "R").map (fun d => fieldsSize d 0 0) = some 1024 := by
  decide +kernel

/-- the expected object sizes for the three parameter sets (compared with `size_of` observed on the crate) -/
theorem expected_sizes :
    [ml_dsa_44, ml_dsa_65, ml_dsa_87].map (fun p => (128 + 1024 * (p.l + 2 * p.k), 96 + 1024 * p.k)) =
      [(12416, 4192), (17536, 6240), (23680, 8288)] := by decide

end Fips204.Props.C16
