import Fips204.Props.C13d
/-!
# C04 (continued) — key generation *is* Algorithm 6, for every seed

`keygenSpec` (`Lemmas/KeygenSpec`) is ML-DSA.KeyGen_internal written with exact arithmetic modulo q:
`(rho, rho', K) <- H(xi || k || l, 128)`; `(s1, s2) <- ExpandS(rho')`; `A_hat <- ExpandA(rho)`;
`t <- NTT^-1(A_hat ∘ NTT(s1)) + s2 mod q` (`tRowS`: exact butterflies on integers, canonical representatives);
`(t1, t0) <- Power2Round(t)` (`Spec.power2round`, C15); `pk <- pkEncode(rho, t1)`; `tr <- H(pk, 64)`;
`sk <- skEncode(rho, K, tr, s1, s2, t0)`.  Samplers and encoders are the model's literal transcriptions.

`key_generation_is_algorithm_6`: for each parameter set and **every** seed, generating the pair and serialising both keys
returns exactly what `keygenSpec` returns, as values of the model's result type (`keygenSpec` runs the model's samplers and
encoders, so the equality alone does not exclude a fault on both sides; that none occurs is `keygen_never_panics`, C13d).
With `keygen_rng_is_seeded` (the RNG-driven entry point is the seeded one applied to the 32 bytes drawn) this is
the whole property.
-/
namespace Fips204.Props.C04
open Fips204 Fips204.Gen Fips204.Impl

theorem key_generation_is_algorithm_6 (m : Mode) (O : Oracles) (hO : OracleOk O) (p : ParamSet) (hp : p ∈ [ml_dsa_44, ml_dsa_65, ml_dsa_87])
    (xi : List Nat) :
    (keygenFromSeed m O p xi >>= fun kp => pkIntoBytes m p kp.1 >>= fun pkb => skIntoBytes m p kp.2 >>= fun skb => pure (pkb, skb)) =
      keygenSpec m O p xi := by
  obtain ⟨he, hl7, hpcfg⟩ := Fips204.Props.C13.keyCfg_of_mem p hp
  exact keygen_bytes_eq_spec m O hO p he hl7 hpcfg xi

end Fips204.Props.C04
