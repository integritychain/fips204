import Fips204.Lemmas.Binding
import Fips204.Props.C06
import Fips204.Props.C07
import Fips204.Props.C13b
/-!
# C05 (continued) — what a second accepted tuple would be: an explicit hash collision

`C05_full` (every one-bit change is rejected) is false of every hash function that has collisions, so it is not a theorem.
What is proved here, for every oracle, every key byte string and every input, on the model of the crate's `verify_internal`
(through C02, `verify_internal` = Algorithm 8):

* `hint_section_change_needs_collision`: two different signature strings with the same `c~` and `z` that both decode (so they
  differ in the hint section: counts, indices or padding) and both verify under the same key and message exhibit two different
  inputs on which `H` (SHAKE256) agrees.  Ingredients: C08 (`sig_encode ∘ sig_decode = id`, so different strings decode to
  different hints), `UseHint(1, r) ≠ UseHint(0, r)`, injectivity of `w1Encode` (it is Algorithm 28, and `SimpleBitUnpack ∘ SimpleBitPack = id` on in-range polynomials).
* `changed_interpretation_needs_collision`: the same signature accepted for two different (context, message, mode)
  interpretations, contexts of at most 255 bytes, is a pre-hash collision or a collision of `H`.
* `changed_public_key_needs_collision`: the same (message, context, signature) accepted under two different public-key strings
  is a collision of `H` (on the keys themselves, on `tr ‖ M'`, or on `mu ‖ w1`).

Changes inside `c~` or `z` are outside any such statement (acceptance there is the fixed-point equation `c~ = H(mu ‖ w1(c~, z))`,
not a collision); those positions are decided by exhaustive flipping on the crate in the check.
-/
namespace Fips204.Props.C05
open Fips204 Fips204.Gen Fips204.Impl

/-- a collision of the oracle `H` at some output length -/
def HCollision (O : Oracles) : Prop := ∃ n x x', x ≠ x' ∧ O.h x n = O.h x' n

/-- `verify_internal` on the struct built from a key byte string is Algorithm 8 on the decoded parts -/
theorem verify_bytes_is_spec (m : Mode) (O : Oracles) (hO : OracleOk O) (p : ParamSet) (hp : p ∈ [ml_dsa_44, ml_dsa_65, ml_dsa_87])
    (pkb : List Nat) (hpb : ∀ x ∈ pkb, x < 256) (hpl : pkb.length = p.pkLen) :
    ∃ pk rho t1, expandPublic m O p pkb = .ok (some pk) ∧ rho.length = 32 ∧ Sh p.k t1 ∧
      ∀ (msg sig ctx oid phm : List Nat) (nist : Bool), (∀ x ∈ sig, x < 256) → sig.length = p.sigLen →
        verifyInternal m O CTEST_default p pk msg sig ctx oid phm nist =
          verifySpec m O CTEST_default p rho (O.h pkb 64) t1 msg sig ctx oid phm nist := by
  obtain ⟨blz, cfg⟩ := C13.verCfg_of_mem p hp
  obtain ⟨pk, d, h1, _, hr, ht, h⟩ := expandPublic_spec m O hO CTEST_default p blz cfg (pkLen_of_mem p hp) pkb hpb hpl
  exact ⟨pk, d.rho, d.t1, h1, hr, ht.1, h⟩

theorem hint_section_change_needs_collision (m : Mode) (O : Oracles) (hO : OracleOk O) (p : ParamSet) (hp : p ∈ [ml_dsa_44, ml_dsa_65, ml_dsa_87])
    (pkb : List Nat) (hpb : ∀ x ∈ pkb, x < 256) (hpl : pkb.length = p.pkLen) (pk : PublicKey) (hpk : expandPublic m O p pkb = .ok (some pk))
    (msg sig sig' ctx oid phm : List Nat) (nist : Bool)
    (hb : ∀ x ∈ sig, x < 256) (hlen : sig.length = p.sigLen) (hb' : ∀ x ∈ sig', x < 256) (hlen' : sig'.length = p.sigLen) (hne : sig ≠ sig')
    (cT : List Nat) (z h h' : List Poly)
    (hd : sigDecode m p sig = .ok (some (cT, z, h))) (hd' : sigDecode m p sig' = .ok (some (cT, z, h')))
    (hv : verifyInternal m O CTEST_default p pk msg sig ctx oid phm nist = .ok true)
    (hv' : verifyInternal m O CTEST_default p pk msg sig' ctx oid phm nist = .ok true) : HCollision O := by
  obtain ⟨blz, cfg⟩ := C13.verCfg_of_mem p hp
  obtain ⟨pk0, rho, t1, hpk0, hrho, ht1, hspec⟩ := verify_bytes_is_spec m O hO p hp pkb hpb hpl
  obtain rfl := Option.some.inj (ok_inj (hpk.symm.trans hpk0))
  rw [hspec msg sig ctx oid phm nist hb hlen] at hv
  rw [hspec msg sig' ctx oid phm nist hb' hlen'] at hv'
  have hhne : h ≠ h' := by
    intro e
    subst e
    have e1 := sigEncode_sigDecode m p blz cfg.sig sig hb hlen cT z h hd
    have e2 := sigEncode_sigDecode m p blz cfg.sig sig' hb' hlen' cT z h hd'
    rw [e1] at e2
    exact hne (ok_inj e2)
  obtain ⟨x, x', hx, he⟩ := hint_change_needs_collision m O hO CTEST_default p blz cfg rho (O.h pkb 64) t1 hrho ht1 msg sig sig' ctx oid phm nist
    hb hlen hb' hlen' cT z h h' hd hd' hhne hv hv'
  exact ⟨_, x, x', hx, he⟩

/-- `verify` / `hash_verify` for an interpretation -/
def verifyAs (m : Mode) (O : Oracles) (p : ParamSet) (pk : PublicKey) (sig : List Nat) (i : C06.Interp) : M Bool :=
  match i.ph with
  | none => verify m O p pk i.msg sig i.ctx
  | some ph => hashVerify m O p pk i.msg sig i.ctx ph

theorem verifyAs_is_spec (m : Mode) (O : Oracles) (p : ParamSet) (pk : PublicKey) (sig : List Nat) (i : C06.Interp) (hc : i.ctx.length ≤ 255) :
    ∃ oid phm, verifyAs m O p pk sig i = verifyInternal m O CTEST_default p pk i.msg sig i.ctx oid phm false ∧
      ∀ tr, (match i.ph with
        | none => muOf O domPure_verify domHash_verify tr i.msg i.ctx [] [] false
        | some ph => muOf O domPure_verify domHash_verify tr i.msg i.ctx (hashMessage O i.msg ph).1 (hashMessage O i.msg ph).2 false) =
        muOf O domPure_verify domHash_verify tr i.msg i.ctx oid phm false := by
  unfold verifyAs
  cases hph : i.ph with
  | none => exact ⟨[], [], C07.verify_accepts_short_ctx m O p pk i.msg sig i.ctx hc, fun _ => rfl⟩
  | some ph => exact ⟨_, _, C07.hashVerify_accepts_short_ctx m O p pk i.msg sig i.ctx ph hc, fun _ => rfl⟩

/-- what acceptance of `sig` as the interpretation `i`, under the struct built from the key bytes, says in terms of Algorithm 8:
    it accepts with `tr = H(pk bytes)` and a message representative `mu = H(tr ‖ M')`, `M'` the formatted message of `i` -/
theorem verifyAs_accepts_spec (m : Mode) (O : Oracles) (hO : OracleOk O) (hW : Spec.WF O) (p : ParamSet)
    (hp : p ∈ [ml_dsa_44, ml_dsa_65, ml_dsa_87])
    (pkb : List Nat) (hpb : ∀ x ∈ pkb, x < 256) (hpl : pkb.length = p.pkLen) (pk : PublicKey) (hpk : expandPublic m O p pkb = .ok (some pk))
    (sig : List Nat) (hb : ∀ x ∈ sig, x < 256) (hlen : sig.length = p.sigLen) (i : C06.Interp) (hci : i.ctx.length ≤ 255)
    (hv : verifyAs m O p pk sig i = .ok true) :
    ∃ rho t1 oid phm, verifySpec m O CTEST_default p rho (O.h pkb 64) t1 i.msg sig i.ctx oid phm false = .ok true ∧
      muOf O domPure_verify domHash_verify (O.h pkb 64) i.msg i.ctx oid phm false = O.h (O.h pkb 64 ++ i.fmt O) 64 := by
  obtain ⟨pk0, rho, t1, hpk0, _, _, hspec⟩ := verify_bytes_is_spec m O hO p hp pkb hpb hpl
  obtain rfl := Option.some.inj (ok_inj (hpk.symm.trans hpk0))
  obtain ⟨oid, phm, e1, m1⟩ := verifyAs_is_spec m O p pk sig i hci
  rw [e1, hspec _ sig _ _ _ _ hb hlen] at hv
  exact ⟨rho, t1, oid, phm, hv, (m1 (O.h pkb 64)).symm.trans (C06.verifier_mu_is_fmt O hW (O.h pkb 64) i hci)⟩

theorem changed_interpretation_needs_collision (m : Mode) (O : Oracles) (hO : OracleOk O) (hW : Spec.WF O) (p : ParamSet)
    (hp : p ∈ [ml_dsa_44, ml_dsa_65, ml_dsa_87])
    (pkb : List Nat) (hpb : ∀ x ∈ pkb, x < 256) (hpl : pkb.length = p.pkLen) (pk : PublicKey) (hpk : expandPublic m O p pkb = .ok (some pk))
    (sig : List Nat) (hb : ∀ x ∈ sig, x < 256) (hlen : sig.length = p.sigLen)
    (i j : C06.Interp) (hne : i ≠ j) (hci : i.ctx.length ≤ 255) (hcj : j.ctx.length ≤ 255)
    (hv : verifyAs m O p pk sig i = .ok true) (hv' : verifyAs m O p pk sig j = .ok true) :
    C06.PrehashCollision O i j ∨ HCollision O := by
  obtain ⟨rho, t1, oid, phm, hv, f1⟩ := verifyAs_accepts_spec m O hO hW p hp pkb hpb hpl pk hpk sig hb hlen i hci hv
  obtain ⟨rho', t1', oid', phm', hv', f2⟩ := verifyAs_accepts_spec m O hO hW p hp pkb hpb hpl pk hpk sig hb hlen j hcj hv'
  by_cases hf : i.fmt O = j.fmt O
  · exact Or.inl (C06.different_interpretations_format_differently O i j hne hf)
  · exact Or.inr (mu_input_change_needs_collision m O hO CTEST_default p rho (O.h pkb 64) rho' (O.h pkb 64) t1 t1'
      i.msg j.msg sig i.ctx j.ctx oid oid' phm phm' false false _ _ (fun h => hf (List.append_cancel_left h)) f1 f2 hv hv')

theorem changed_public_key_needs_collision (m : Mode) (O : Oracles) (hO : OracleOk O) (hW : Spec.WF O) (p : ParamSet)
    (hp : p ∈ [ml_dsa_44, ml_dsa_65, ml_dsa_87])
    (pkb pkb' : List Nat) (hpb : ∀ x ∈ pkb, x < 256) (hpl : pkb.length = p.pkLen) (hpb' : ∀ x ∈ pkb', x < 256) (hpl' : pkb'.length = p.pkLen)
    (hne : pkb ≠ pkb') (pk pk' : PublicKey) (hpk : expandPublic m O p pkb = .ok (some pk)) (hpk' : expandPublic m O p pkb' = .ok (some pk'))
    (sig : List Nat) (hb : ∀ x ∈ sig, x < 256) (hlen : sig.length = p.sigLen) (i : C06.Interp) (hci : i.ctx.length ≤ 255)
    (hv : verifyAs m O p pk sig i = .ok true) (hv' : verifyAs m O p pk' sig i = .ok true) : HCollision O := by
  obtain ⟨rho, t1, oid, phm, hv, f1⟩ := verifyAs_accepts_spec m O hO hW p hp pkb hpb hpl pk hpk sig hb hlen i hci hv
  obtain ⟨rho', t1', oid', phm', hv', f2⟩ := verifyAs_accepts_spec m O hO hW p hp pkb' hpb' hpl' pk' hpk' sig hb hlen i hci hv'
  by_cases htr : O.h pkb 64 = O.h pkb' 64
  · exact ⟨64, pkb, pkb', hne, htr⟩
  · exact mu_input_change_needs_collision m O hO CTEST_default p rho (O.h pkb 64) rho' (O.h pkb' 64) t1 t1'
      i.msg i.msg sig i.ctx i.ctx oid oid' phm phm' false false _ _
      (fun h => htr (List.append_inj h (by rw [hO.hlen, hO.hlen])).1) f1 f2 hv hv'

end Fips204.Props.C05
