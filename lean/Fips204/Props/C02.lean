import Fips204.Props.C07
/-!
# C02 — verification accepts exactly what FIPS 204 Verify accepts

Proved for all inputs and all oracles (the *rejecting* half the property spells out):
acceptance implies that strict decoding of the signature succeeded (so no malformed hint encoding is ever
accepted), that the response norm is strictly below `gamma1 - beta`, and that the commitment hash recomputed
from the decoded signature equals `c~`; and no context longer than 255 bytes is accepted (C07).
The accepting half - `verify_internal` returns exactly what Algorithm 8 returns, on every input - is
`verification_is_algorithm_8` in `Props/C02b` (exact arithmetic) and
`verification_is_fips_204_algorithm_8_as_written` in `Props/C02c` (the standard as written).
-/
namespace Fips204.Props.C02
open Fips204 Fips204.Gen Fips204.Impl

/-- acceptance implies: decoding succeeded, norm strictly below gamma1 - beta, commitment hash equal -/
theorem accept_implies (m : Mode) (O : Oracles) (ctest : Bool) (p : ParamSet) (pk : PublicKey)
    (msg sig ctx oid phm : List Nat) (nist : Bool)
    (h : verifyInternal m O ctest p pk msg sig ctx oid phm nist = .ok true) :
    ∃ cTilde z hh zn g1b w1t, sigDecode m p sig = .ok (some (cTilde, z, hh)) ∧ infinityNorm m z = .ok zn ∧
      arith .i32 m "ml_dsa.rs:verify_internal:gamma1-beta" (p.gamma1 - p.beta) = .ok g1b ∧ zn < g1b ∧
      cTilde = O.h (muOf O domPure_verify domHash_verify pk.tr msg ctx oid phm nist ++ w1t) p.lambdaDiv4 := by
  simp only [verifyInternal, bind_eq_ok, pure_eq_ok, Option.exists, Prod.exists, reduceCtorEq, and_false, false_or,
    Bool.and_eq_true, decide_eq_true_eq] at h
  -- the steps in the order of the model's text
  obtain ⟨cTilde, z, hh, hd, asserted, -, c, -, aHat, -, wApprox, -, w1, -, w1t, -, zn, hzn, g1b, hg, hlt, hc⟩ := h
  exact ⟨cTilde, z, hh, zn, g1b, w1t, hd, hzn, hg, hlt, hc⟩

/-- a signature whose encoding does not decode (any malformed hint section, see C08) is never accepted -/
theorem malformed_encoding_rejected (m : Mode) (O : Oracles) (ctest : Bool) (p : ParamSet) (pk : PublicKey)
    (msg sig ctx oid phm : List Nat) (nist : Bool) (h : sigDecode m p sig = .ok none) :
    verifyInternal m O ctest p pk msg sig ctx oid phm nist = .ok false := by
  unfold verifyInternal
  simp only [h, ok_bind, pure_eq]

/-- a response vector of infinity norm at least gamma1 - beta is never accepted -/
theorem large_norm_rejected (m : Mode) (O : Oracles) (ctest : Bool) (p : ParamSet) (pk : PublicKey)
    (msg sig ctx oid phm : List Nat) (nist : Bool) (cTilde : List Nat) (z hh : List Poly) (zn : Int)
    (hfit : -2147483648 ≤ p.gamma1 - p.beta ∧ p.gamma1 - p.beta ≤ 2147483647)
    (hd : sigDecode m p sig = .ok (some (cTilde, z, hh))) (hn : infinityNorm m z = .ok zn)
    (hb : p.gamma1 - p.beta ≤ zn) :
    verifyInternal m O ctest p pk msg sig ctx oid phm nist ≠ .ok true := by
  intro h
  obtain ⟨c', z', h', zn', g1b, w1t, h1, h2, h3, h4, _⟩ := accept_implies m O ctest p pk msg sig ctx oid phm nist h
  rw [hd] at h1
  simp only [Except.ok.injEq, Option.some.injEq, Prod.mk.injEq] at h1
  obtain ⟨_, hz, _⟩ := h1
  subst hz
  rw [hn] at h2
  simp only [Except.ok.injEq] at h2
  subst h2
  rw [arith_i32 _ _ _ hfit.1 hfit.2] at h3
  simp only [Except.ok.injEq] at h3
  omega

/-- the side condition holds for the three parameter sets of the crate -/
theorem params_fit : ∀ p ∈ [ml_dsa_44, ml_dsa_65, ml_dsa_87],
    -2147483648 ≤ p.gamma1 - p.beta ∧ p.gamma1 - p.beta ≤ 2147483647 := by decide

/-- contexts longer than 255 bytes are never accepted by the three external verifiers (from C07) -/
theorem long_context_rejected (m : Mode) (O : Oracles) (p : ParamSet) (pk : PublicKey) (msg sig ctx : List Nat)
    (ph : Ph) (h : ctx.length > 255) :
    verify m O p pk msg sig ctx = .ok false ∧ hashVerify m O p pk msg sig ctx ph = .ok false ∧
    internalVerify m O p pk msg sig ctx = .ok false :=
  ⟨C07.verify_rejects_long_ctx m O p pk msg sig ctx h, C07.hashVerify_rejects_long_ctx m O p pk msg sig ctx ph h,
   C07.internalVerify_rejects_long_ctx m O p pk msg sig ctx h⟩

/-- **the final test of `verify_internal`, as written in the source (regenerated on every run), is Algorithm 8 line 13**:
    strict `<` on the norm, equality of the two hashes, conjunction -/
theorem verify_acceptance_test_is_algorithm_8 (zn g1 beta : Int) (ct ctp : List Nat) :
    verifyAccept zn g1 beta ct ctp = (decide (zn < g1 - beta) && decide (ct = ctp)) := rfl

end Fips204.Props.C02
