import Fips204.Lemmas.VerifySpec
import Fips204.Props.C13b
/-!
# C02 (continued) — verification *is* Algorithm 8, for every input

`verifySpec` (`Lemmas/VerifySpec`) is ML-DSA.Verify_internal written with exact arithmetic modulo q:
`(c~, z, h) <- sigDecode(sigma)`; reject if that fails; `mu`; `c <- SampleInBall(c~)`; `A_hat <- ExpandA(rho)`;
`w'_Approx <- NTT^-1(A_hat ∘ NTT(z) - NTT(c) ∘ NTT(t1 * 2^d))` (`wApproxS`: `nttS`/`invS` butterflies on integers,
canonical representatives); `w1' <- UseHint(h, w'_Approx)` (`Spec.useHint`, C15); `c~' <- H(mu || w1Encode(w1'))`;
accept iff `‖z‖∞ < gamma1 - beta` (`normInfS`) and `c~ = c~'`.  The decoder, samplers and encoder it calls are the
model's own literal transcriptions (canonicity of the decoders: C08; they are compared with the crate on every run).
The table the butterflies read holds the FIPS 204 zetas (`zeta_table_holds_the_fips_zetas`: entry `k` is
`1753^bitrev8(k) * 2^32 mod q`, by kernel evaluation of the generated table: `zetaTable_eq`).

* `verification_is_algorithm_8`: for each parameter set, **every** public-key byte string, message, context, pre-hash
  and **every** byte string of signature length, `verify_internal` on the struct `expand_public` built returns exactly
  what `verifySpec` returns on `(rho, tr, t1) = pkDecode(pk)` - in both build modes (`verifySpec` runs the model's decoder,
  samplers and encoder; that no fault occurs on either side is `verification_path_never_panics`, C13b).
* `verify_is_algorithm_3`, `hash_verify_is_algorithm_5`: the external entry points add the context-length rejection and the
  message formatting (C06, C07) around it.
-/
namespace Fips204.Props.C02
open Fips204 Fips204.Gen Fips204.Impl

theorem zeta_table_holds_the_fips_zetas : ∀ k, 1 ≤ k → k < 256 → (zv k * RINV - 1753 ^ bitrev8 k) % 8380417 = 0 := by
  intro k _ h2
  exact cf_cg k h2

theorem verification_is_algorithm_8 (m : Mode) (O : Oracles) (hO : OracleOk O) (p : ParamSet) (hp : p ∈ [ml_dsa_44, ml_dsa_65, ml_dsa_87])
    (pkb msg sig ctx oid phm : List Nat) (nist : Bool) (hpb : ∀ x ∈ pkb, x < 256) (hpl : pkb.length = p.pkLen)
    (hb : ∀ x ∈ sig, x < 256) (hlen : sig.length = p.sigLen) :
    ∃ pk d, expandPublic m O p pkb = .ok (some pk) ∧ pkDecode m p pkb = .ok (some d) ∧
      verifyInternal m O CTEST_default p pk msg sig ctx oid phm nist =
        verifySpec m O CTEST_default p d.rho (O.h pkb 64) d.t1 msg sig ctx oid phm nist := by
  obtain ⟨blz, cfg⟩ := C13.verCfg_of_mem p hp
  obtain ⟨pk, d, h1, h2, _, _, h⟩ := expandPublic_spec m O hO CTEST_default p blz cfg (pkLen_of_mem p hp) pkb hpb hpl
  exact ⟨pk, d, h1, h2, h msg sig ctx oid phm nist hb hlen⟩

theorem verify_is_algorithm_3 (m : Mode) (O : Oracles) (p : ParamSet) (pk : PublicKey) (msg sig ctx : List Nat) :
    verify m O p pk msg sig ctx = if ctx.length > 255 then .ok false else verifyInternal m O CTEST_default p pk msg sig ctx [] [] false :=
  verify_eq m O p pk msg sig ctx

theorem hash_verify_is_algorithm_5 (m : Mode) (O : Oracles) (p : ParamSet) (pk : PublicKey) (msg sig ctx : List Nat) (ph : Ph) :
    hashVerify m O p pk msg sig ctx ph = if ctx.length > 255 then .ok false else
      verifyInternal m O CTEST_default p pk msg sig ctx (hashMessage O msg ph).1 (hashMessage O msg ph).2 false :=
  hashVerify_eq m O p pk msg sig ctx ph

end Fips204.Props.C02
