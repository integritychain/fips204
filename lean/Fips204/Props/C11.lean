import Fips204.Lemmas.Api
/-!
# C11 — the public key derived from a private key equals the generated one

Proved for all keys and oracles: the derived key *copies* rho and tr from the private key, and the
derivation reads neither K nor t0 (so no value of the t0 section can influence it or make it fault -
the repaired F2).  Key generation stores the same rho and tr in both structs, with tr = H(pkEncode(rho, t1)).
That the recomputed `t1` precompute equals the generated one for every key (NTT pipeline, C18) is in `Props/C11b`;
it is also decided on every run by struct-level comparison on the crate and against the model.
-/
namespace Fips204.Props.C11
open Fips204 Fips204.Gen Fips204.Impl

/-- the derived key carries the private key's rho and tr (a zeroed or recomputed tr would break this) -/
theorem derive_copies_rho_tr (m : Mode) (O : Oracles) (p : ParamSet) (sk : PrivateKey) (pk : PublicKey)
    (h : privateToPublicKey m O p sk = .ok pk) : pk.rho = sk.rho ∧ pk.tr = sk.tr := by
  simp only [privateToPublicKey, bind_eq_ok, pure_eq_ok, Prod.exists] at h
  -- the steps in the order of the model's text
  obtain ⟨aHat, -, s1Hat, -, s2, -, as1, -, w, -, tnr, -, t, -, t1, t0, -, t1d2, -, rfl⟩ := h
  exact ⟨rfl, rfl⟩

/-- the derivation does not read K or t0 -/
theorem derive_ignores_key_and_t0 (m : Mode) (O : Oracles) (p : ParamSet) (sk : PrivateKey) (k' : List Nat) (t0' : List Poly) :
    privateToPublicKey m O p { sk with key := k', t0 := t0' } = privateToPublicKey m O p sk := rfl

/-- key generation puts the same rho and tr into both structs -/
theorem keygen_shares_rho_tr (m : Mode) (O : Oracles) (ctest : Bool) (p : ParamSet) (xi : List Nat) (pk : PublicKey) (sk : PrivateKey)
    (h : keyGenInternal m O ctest p xi = .ok (pk, sk)) : pk.rho = sk.rho ∧ pk.tr = sk.tr := by
  obtain ⟨h1, h2, _, h4⟩ := keyGenInternal_fields m O ctest p xi pk sk h
  exact ⟨h1.trans h2.symm, h4⟩

/-- hence, whenever the derived `t1` precompute equals the generated one, the two public keys are the same struct -/
theorem derive_eq_of_same_t1 (m : Mode) (O : Oracles) (p : ParamSet) (xi : List Nat) (pk pk' : PublicKey) (sk : PrivateKey)
    (hk : keyGenInternal m O CTEST_default p xi = .ok (pk, sk)) (hd : privateToPublicKey m O p sk = .ok pk')
    (ht : pk'.t1d2 = pk.t1d2) : pk' = pk := by
  obtain ⟨h1, h2⟩ := keygen_shares_rho_tr m O _ p xi pk sk hk
  obtain ⟨h3, h4⟩ := derive_copies_rho_tr m O p sk pk' hd
  cases pk; cases pk'; simp_all

end Fips204.Props.C11
