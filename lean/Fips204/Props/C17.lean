import Fips204.Gen.Cfg
/-!
# C17 — every supported feature combination builds and behaves the same

Finite model (level `other`): the cfg-gate inventory `Gen.cfgGates` (regenerated from `Cargo.toml` and
`src/*.rs`).  Inside the model, for all 28 configurations: at least one parameter-set module exists; every gate
sits on a parameter-set module, the `OsRng` import, an OS-RNG convenience function, the dudect entry point or a
test module; the `OsRng` import and each of its users carry the same predicate; no gate occurs inside the
algorithmic modules.  Hence the code of an enabled parameter set is the same term in every configuration.
*Not modelled*: rustc's lints and name resolution - enumerated completely instead (28 real builds with the
crate's own `deny(warnings, dead_code, ..)` in force, and known-answer digests per enabled set).
-/
namespace Fips204.Props.C17
open Fips204.Gen

structure Config where
  s44 : Bool
  s65 : Bool
  s87 : Bool
  rng : Bool
  dudect : Bool
  deriving DecidableEq, Repr

/-- the 28 configurations of the property: non-empty subsets of the three sets x default-rng x dudect -/
def configs : List Config :=
  ([true, false].flatMap fun a => [true, false].flatMap fun b => [true, false].flatMap fun c =>
    [true, false].flatMap fun r => [true, false].map fun d => Config.mk a b c r d).filter (fun c => c.s44 || c.s65 || c.s87)

theorem there_are_28 : configs.length = 28 := by decide

/-- evaluation of a gate predicate in a configuration (`none` = a predicate this model does not understand) -/
def evalPred (c : Config) : String → Option Bool
  | "test" => some false
  | "feature = 'default-rng'" => some c.rng
  | "feature = 'dudect'" => some c.dudect
  | "feature = 'ml-dsa-44'" => some c.s44
  | "feature = 'ml-dsa-65'" => some c.s65
  | "feature = 'ml-dsa-87'" => some c.s87
  | _ => none

/-- where a gate may sit -/
def allowedGate (g : CfgGate) : Bool :=
  (g.kind == "test-mod") ||
  (g.kind == "mod" && (g.item == "ml_dsa_44" || g.item == "ml_dsa_65" || g.item == "ml_dsa_87") && g.file == "lib.rs") ||
  (g.pred == "feature = 'default-rng'" && (g.item == "rand_core::OsRng" || g.item == "try_keygen" || g.item == "try_sign" || g.item == "try_hash_sign")) ||
  (g.pred == "feature = 'dudect'" && (g.item == "dudect_keygen_sign_with_rng" || g.file == "lib.rs"))

/-- the algorithmic modules contain no gate except their test modules -/
def algorithmic : List String := ["conversion.rs", "encodings.rs", "hashing.rs", "helpers.rs", "high_low.rs", "ml_dsa.rs", "ntt.rs", "types.rs"]

theorem gates_confined : cfgGates.all allowedGate = true := by decide +kernel

theorem no_gate_in_algorithmic_modules :
    cfgGates.all (fun g => !(algorithmic.contains g.file) || g.kind == "test-mod") = true := by decide +kernel

theorem every_predicate_understood : configs.all (fun c => cfgGates.all (fun g => (evalPred c g.pred).isSome)) = true := by decide +kernel

/-- the OsRng import and every user of it carry the same predicate, in every configuration: no dangling import, no missing import -/
theorem osrng_import_matches_users :
    configs.all (fun c =>
      let imp := cfgGates.filter (fun g => g.item == "rand_core::OsRng")
      let users := cfgGates.filter (fun g => g.file == "traits.rs" && g.kind == "fn")
      imp.length == 1 && users.all (fun u => imp.all (fun i => evalPred c u.pred == evalPred c i.pred))) = true := by decide +kernel

/-- each parameter-set module is gated by exactly its own feature, so every configuration enables at least one module -/
theorem some_module_enabled :
    configs.all (fun c => (cfgGates.filter (fun g => g.kind == "mod" && evalPred c g.pred == some true)).length ≥ 1) = true := by decide +kernel

/-- each OS-RNG convenience function is exactly one call of its `_with_rng` variant with `&mut OsRng` (C12, clause d) -/
theorem os_rng_wrappers_delegate : osRngWrappers.all (fun w => w.2.2) = true ∧ osRngWrappers.length = 4 := by decide +kernel

/-- the feature table of Cargo.toml is the one the property fixes -/
theorem feature_table :
    (features.map (·.1)) = ["default", "default-rng", "ml-dsa-44", "ml-dsa-65", "ml-dsa-87", "dudect", "verif-hooks"] ∧
    features.lookup "default" = some ["default-rng", "ml-dsa-44", "ml-dsa-65", "ml-dsa-87"] := by decide +kernel

end Fips204.Props.C17
