import Fips204.Lemmas.Api
/-!
# C12 — RNG failure is reported, and all drawn randomness is used

The RNG protocol is the automaton of `Impl.Api.draw`; request size, method and error propagation are
`Gen.rng*` constants extracted from the three randomised entry points on every run.
-/
namespace Fips204.Props.C12
open Fips204 Fips204.Gen Fips204.Impl

/-- a script whose next response is a failure (before writing, after a partial write, or an empty script) -/
def Fails : List RngResp → Prop
  | [] => True
  | RngResp.errBefore :: _ => True
  | RngResp.errAfter _ :: _ => True
  | RngResp.ok b :: _ => b = []

/-- the source requests randomness through the fallible method, 32 bytes, and propagates the error
    (facts about the regenerated constants; a 16-byte draw, `fill_bytes`, or a dropped `?` falsify them) -/
theorem requests_are_fallible_32 :
    rngMethod_keygen = "try_fill_bytes" ∧ rngMethod_sign = "try_fill_bytes" ∧ rngMethod_hashSign = "try_fill_bytes" ∧
    rngErrPropagated_keygen = true ∧ rngErrPropagated_sign = true ∧ rngErrPropagated_hashSign = true ∧
    rngBytes_keygen = 32 ∧ rngBytes_sign = 32 ∧ rngBytes_hashSign = 32 := by decide

theorem drawn_fails (script : List RngResp) (n : Nat) (h : Fails script) : drawn n script = none := by
  match script, h with
  | [], _ => rfl
  | RngResp.errBefore :: _, _ => rfl
  | RngResp.errAfter _ :: _, _ => rfl
  | RngResp.ok b :: _, hb =>
    have : b = [] := hb
    subst this
    rfl

theorem draw_fails (script : List RngResp) (n : Nat) (h : Fails script) :
    ∃ rest, draw "try_fill_bytes" true script n = .ok (none, rest, .tryFill n) :=
  ⟨_, by rw [draw_eq, drawn_fails script n h]⟩

/-- (a) a failing generator makes key generation return `Err`, with exactly one fallible request and no key -/
theorem keygen_reports_rng_failure (m : Mode) (O : Oracles) (p : ParamSet) (script : List RngResp) (h : Fails script) :
    keygenWithRng m O p script = .ok (.error .rng, [.tryFill 32]) := by
  rw [keygenWithRng_eq, drawn_fails script 32 h]

theorem sign_reports_rng_failure (m : Mode) (O : Oracles) (p : ParamSet) (fuel : Nat) (sk : PrivateKey)
    (msg ctx : List Nat) (script : List RngResp) (hc : ctx.length ≤ 255) (h : Fails script) :
    sign m O p fuel sk msg ctx script = .ok (.error .rng, [.tryFill 32]) := by
  rw [sign_eq, if_neg (by omega), drawn_fails script 32 h]

theorem hashSign_reports_rng_failure (m : Mode) (O : Oracles) (p : ParamSet) (fuel : Nat) (sk : PrivateKey)
    (msg ctx : List Nat) (ph : Ph) (script : List RngResp) (hc : ctx.length ≤ 255) (h : Fails script) :
    hashSign m O p fuel sk msg ctx ph script = .ok (.error .rng, [.tryFill 32]) := by
  rw [hashSign_eq, if_neg (by omega), drawn_fails script 32 h]

/-- the 32 bytes handed to the algorithm are exactly the generator's response -/
theorem draw_ok (bs : List Nat) (rest : List RngResp) (h : bs.length = 32) :
    draw "try_fill_bytes" true (RngResp.ok bs :: rest) 32 = .ok (some bs, rest, .tryFill 32) := by
  rw [draw_eq, drawn_eq bs rest 32 h (by decide)]
  rfl

/-- (c) dataflow of key generation: the RNG variant is the seeded variant of the 32 bytes drawn (also C04) -/
theorem keygen_uses_all_drawn_bytes (m : Mode) (O : Oracles) (p : ParamSet) (xi : List Nat) (rest : List RngResp)
    (h : xi.length = 32) :
    keygenWithRng m O p (RngResp.ok xi :: rest) =
      (do let kp ← keygenFromSeed m O p xi; pure (.ok kp, [.tryFill 32])) := by
  rw [keygenWithRng_eq, drawn_eq xi rest 32 h (by decide)]

/-- (c) dataflow of signing: the draw reaches `signInternal` unchanged as `rnd` ... -/
theorem sign_uses_all_drawn_bytes (m : Mode) (O : Oracles) (p : ParamSet) (fuel : Nat) (sk : PrivateKey)
    (msg ctx rnd : List Nat) (rest : List RngResp) (hc : ctx.length ≤ 255) (h : rnd.length = 32) :
    sign m O p fuel sk msg ctx (RngResp.ok rnd :: rest) =
      (do let s ← signInternal m O CTEST_default p fuel sk msg ctx [] [] rnd false; pure (.ok s, [.tryFill 32])) := by
  rw [sign_eq, if_neg (by omega), drawn_eq rnd rest 32 h (by decide)]

/-- ... and there it is absorbed whole into `rho'' = H(K || rnd || mu)`: two different draws give different
    hash *inputs* (that the outputs then differ is a property of SHAKE256, see `C12_full`) -/
theorem rnd_absorbed_injectively (key mu rnd rnd' : List Nat) (h : rnd.length = rnd'.length)
    (he : key ++ rnd ++ mu = key ++ rnd' ++ mu) : rnd = rnd' := by
  have h1 : rnd ++ mu = rnd' ++ mu := by
    have := he; simp only [List.append_assoc] at this; exact List.append_cancel_left this
  exact List.append_inj_left h1 h

/-- the full statement of the property's last clause, kept visible; it is a statement about the hash -/
def C12_full : Prop :=
  ∀ (m : Mode) (O : Oracles) (p : ParamSet) (fuel : Nat) (sk : PrivateKey) (msg ctx rnd rnd' : List Nat),
    rnd.length = 32 → rnd'.length = 32 → rnd ≠ rnd' → ctx.length ≤ 255 →
    sign m O p fuel sk msg ctx [RngResp.ok rnd] ≠ sign m O p fuel sk msg ctx [RngResp.ok rnd']

/-! non-vacuity -/
example : Fails [RngResp.errAfter [1, 2, 3]] := trivial
example : ¬ Fails [RngResp.ok [7]] := by simp [Fails]

end Fips204.Props.C12
