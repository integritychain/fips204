import Fips204.Lemmas.SpecKeygen
/-!
# C04 (continued) — `try_keygen_with_rng` is FIPS 204 Algorithm 1 **as the standard writes it**

`Spec.keyGen` transcribes Algorithm 1: `⊥` when the random bit generator fails, otherwise `ML-DSA.KeyGen_internal(xi)`.

* `keygen_is_ML_DSA_KeyGen_as_written` — for each parameter set and every generator whose first answer is 32 bytes `xi` (whatever it would
  answer afterwards), in both build modes: the entry point returns `Ok` with one `try_fill_bytes(32)` call logged, and the two structs serialise
  to exactly the standard's `(pk, sk)`.  (Last case of the `match`: the finite XOF prefix of the transcription ran out - then so did the model's.)
  A failing generator is `keygen_rng_failure` (C04): `Err` and no key, the standard's `⊥`.
-/
namespace Fips204.Props.C04
open Fips204 Fips204.Gen Fips204.Impl

theorem keygen_is_ML_DSA_KeyGen_as_written (m : Mode) (O : Oracles) (hO : OracleOk O) (p : ParamSet) (hp : p ∈ [ml_dsa_44, ml_dsa_65, ml_dsa_87])
    (xi : List Nat) (rest : List RngResp) (hx : xi.length = 32) :
    match Spec.keyGen (specParams p) O.h O.g (1680 * O.fuelScale) (1088 * O.fuelScale) (some xi) with
    | some (some (pk, sk)) => ∃ kp, keygenWithRng m O p (RngResp.ok xi :: rest) = .ok (.ok kp, [.tryFill 32]) ∧
        pkIntoBytes m p kp.1 = .ok pk ∧ skIntoBytes m p kp.2 = .ok sk
    | some none => False
    | none => ∃ s, keygenWithRng m O p (RngResp.ok xi :: rest) = .error (.fuel s) ∨
        ∃ kp, keygenWithRng m O p (RngResp.ok xi :: rest) = .ok (.ok kp, [.tryFill 32]) ∧
          ((∃ s', pkIntoBytes m p kp.1 = .error (.fuel s')) ∨ ∃ s', skIntoBytes m p kp.2 = .error (.fuel s')) := by
  have h6 := keygen_is_algorithm_6_as_written m O hO p hp xi
  rw [keygenWithRng_eq, drawn_eq xi rest 32 hx (by decide)]
  unfold Spec.keyGen
  simp only []
  cases hk : Spec.keyGenInternal (specParams p) O.h O.g (1680 * O.fuelScale) (1088 * O.fuelScale) xi with
  | none =>
    rw [hk] at h6
    obtain ⟨s, hs⟩ := h6
    simp only [Option.map_none]
    rcases bind_fuel_inv hs with hg | ⟨kp, hg, hs⟩
    · exact ⟨s, Or.inl (by rw [hg]; rfl)⟩
    · refine ⟨s, Or.inr ⟨kp, by rw [hg]; rfl, ?_⟩⟩
      rcases bind_fuel_inv hs with hpk | ⟨pkb, _, hs⟩
      · exact Or.inl ⟨s, hpk⟩
      · rcases bind_fuel_inv hs with hskb | ⟨skb, _, hs⟩
        · exact Or.inr ⟨s, hskb⟩
        · cases hs
  | some r =>
    obtain ⟨pk, sk⟩ := r
    simp only [Option.map_some]
    obtain ⟨kp, hkp, hpkI, hskI⟩ := keygen_of_algorithm_6 m O hO p hp xi pk sk hk
    exact ⟨kp, by rw [hkp]; rfl, hpkI, hskI⟩

example (P : Spec.Params) (H G : List Nat → Nat → List Nat) : Spec.keyGen P H G 0 0 none = some none := rfl

end Fips204.Props.C04
