import Fips204.Lemmas.EndToEnd
import Fips204.Props.C01b
import Fips204.Props.C07
import Fips204.Props.C10b
import Fips204.Props.C13d
/-!
# C01 — the property itself: a signature made with a generated private key verifies under the matching public key

* `signature_verifies_spec`: Algorithm 8 returns `true` on what Algorithm 7 emits (exact specifications; every key
  `(rho, K, tr, s1, s2)` with `t = A s1 + s2`, `(t1, t0) = Power2Round(t)`), through the rejection loop, `sigEncode` and `sigDecode`.
* `sign_then_verify`: the same for the model of the crate's own functions - `key_gen_internal`, `sign_internal`, `verify_internal` -
  for every seed, message, context, pre-hash, `rnd`, both build modes and the three parameter sets: whenever signing returns a
  signature, verification of it returns `true`.  Composition of C04 (`genOk_vectors`), C03 (`signInternal_eq_spec`), the
  specification-level theorem and C02 (`verifyInternal_eq_spec`).
* `sign_then_verify_any_provenance`: the private key may be the generated struct or the one deserialised from its bytes; the
  public key the generated struct, the one deserialised from its bytes, or the one derived from the private key (C09, C11).
* `api_sign_then_verify`, `api_hash_sign_then_verify`: the same at the level of `try_sign_with_rng` / `verify` and
  `try_hash_sign_with_rng` / `hash_verify`, for every RNG script.

What "returns a signature" leaves open: the model's rejection loop has a fuel bound (`fuel * l ≤ 65535`, the 16-bit counter);
the crate loops until acceptance.  The hash functions are an arbitrary oracle `O` returning bytes of the requested length.
-/
namespace Fips204.Props.C01
open Fips204 Fips204.Gen Fips204.Impl

theorem signature_verifies_spec (m : Mode) (O : Oracles) (hO : OracleOk O) (p : ParamSet)
    (hp : p ∈ [ml_dsa_44, ml_dsa_65, ml_dsa_87])
    (fuel : Nat) (rho key tr : List Nat) (s1 s2 : List Poly) (aHat : List (List Poly)) (hexp : expandA m O false p rho = .ok aHat)
    (hA : ∀ row ∈ aHat, ∀ a ∈ row, a.length = 256) (hk : aHat.length = p.k)
    (hs1 : s1.length = p.l ∧ ∀ u ∈ s1, u.length = 256) (hs2 : s2.length = p.k ∧ ∀ u ∈ s2, u.length = 256)
    (hs2b : ∀ u ∈ s2, ∀ x ∈ u, -p.eta ≤ x ∧ x ≤ p.eta)
    (msg ctx oid phm rnd : List Nat) (nist : Bool) (out : SignOut)
    (hsign : signSpec m O p fuel rho key tr s1 s2
      ((List.zipWith (fun row s2r => tRowS row s1 s2r) aHat s2).map (fun q => q.map (fun x => (Spec.power2round x).2)))
      msg ctx oid phm rnd nist = .ok out) :
    verifySpec m O false p rho tr
      ((List.zipWith (fun row s2r => tRowS row s1 s2r) aHat s2).map (fun q => q.map (fun x => (Spec.power2round x).1)))
      msg out.sig ctx oid phm nist = .ok true := by
  obtain ⟨hg, hbeta, hbg, htau, heta⟩ := c01_params p hp
  obtain ⟨blz, cfg, _, _⟩ := C13.signCfg_of_mem p hp
  exact sign_verify_spec m O hO p blz cfg.sig hg hbeta hbg htau heta fuel rho key tr s1 s2 aHat hexp hA hk hs1 hs2 hs2b
    msg ctx oid phm rnd nist out hsign

/-- **C01 on the model of the crate's functions** -/
theorem sign_then_verify (m : Mode) (O : Oracles) (hO : OracleOk O) (p : ParamSet) (hp : p ∈ [ml_dsa_44, ml_dsa_65, ml_dsa_87])
    (fuel : Nat) (hfuel : fuel * p.l ≤ 65535) (xi : List Nat) (kp : PublicKey × PrivateKey)
    (hkg : keygenFromSeed m O p xi = .ok kp) (msg ctx oid phm rnd : List Nat) (nist : Bool) (out : SignOut)
    (hs : signInternal m O CTEST_default p fuel kp.2 msg ctx oid phm rnd nist = .ok out) :
    verifyInternal m O CTEST_default p kp.1 msg out.sig ctx oid phm nist = .ok true := by
  obtain ⟨hg, hbeta, hbg, _, _⟩ := c01_params p hp
  obtain ⟨blz, cfg, hk8, _⟩ := C13.signCfg_of_mem p hp
  obtain ⟨_, he, _, _⟩ := C10.sk_config m p hp
  exact keygen_sign_verify m O hO p blz cfg hk8 he (pkLen_of_mem p hp) hg hbeta hbg fuel hfuel xi kp hkg msg ctx oid phm rnd nist out hs

/-- every provenance pair the property lists: generated or deserialised private key; generated, deserialised or derived public key -/
theorem sign_then_verify_any_provenance (m : Mode) (O : Oracles) (hO : OracleOk O) (p : ParamSet) (hp : p ∈ [ml_dsa_44, ml_dsa_65, ml_dsa_87])
    (fuel : Nat) (hfuel : fuel * p.l ≤ 65535) (xi : List Nat) (kp : PublicKey × PrivateKey)
    (hkg : keygenFromSeed m O p xi = .ok kp) (sk' : PrivateKey) (pk' : PublicKey)
    (hsk : sk' = kp.2 ∨ ∃ skb, skIntoBytes m p kp.2 = .ok skb ∧ expandPrivate m p skb = .ok (some sk'))
    (hpk : pk' = kp.1 ∨ (∃ pkb, pkIntoBytes m p kp.1 = .ok pkb ∧ expandPublic m O p pkb = .ok (some pk')) ∨
      privateToPublicKey m O p sk' = .ok pk')
    (msg ctx oid phm rnd : List Nat) (nist : Bool) (out : SignOut)
    (hs : signInternal m O CTEST_default p fuel sk' msg ctx oid phm rnd nist = .ok out) :
    verifyInternal m O CTEST_default p pk' msg out.sig ctx oid phm nist = .ok true := by
  obtain ⟨bl, he, hbl, hcfg⟩ := C10.sk_config m p hp
  obtain ⟨_, hl7, hpcfg⟩ := C13.keyCfg_of_mem p hp
  have hgen : GenOk m O p kp := (C13.keygen_never_panics m O hO p hp xi []).1.ok_elim hkg
  obtain ⟨pkb, skb, h1, _, h3, h4, _, h6⟩ := gen_roundtrip_struct m O p he bl hbl hcfg hpcfg kp hgen
  have hd := derive_eq_generated m O p hl7 he kp hgen
  have esk : sk' = kp.2 := by
    rcases hsk with h | ⟨skb', g1, g2⟩
    · exact h
    · obtain rfl := ok_inj (h4.symm.trans g1)
      exact (Option.some.inj (ok_inj (h6.symm.trans g2))).symm
  subst esk
  have epk : pk' = kp.1 := by
    rcases hpk with h | ⟨pkb', g1, g2⟩ | g
    · exact h
    · obtain rfl := ok_inj (h1.symm.trans g1)
      exact (Option.some.inj (ok_inj (h3.symm.trans g2))).symm
    · exact (ok_inj (hd.symm.trans g)).symm
  subst epk
  exact sign_then_verify m O hO p hp fuel hfuel xi kp hkg msg ctx oid phm rnd nist out hs

/-- `try_sign_with_rng` then `verify` (Algorithms 2 and 3), every RNG script -/
theorem api_sign_then_verify (m : Mode) (O : Oracles) (hO : OracleOk O) (p : ParamSet) (hp : p ∈ [ml_dsa_44, ml_dsa_65, ml_dsa_87])
    (fuel : Nat) (hfuel : fuel * p.l ≤ 65535) (xi : List Nat) (kp : PublicKey × PrivateKey)
    (hkg : keygenFromSeed m O p xi = .ok kp) (msg ctx : List Nat) (script : List RngResp) (s : SignOut) (log : List RngCall)
    (hs : sign m O p fuel kp.2 msg ctx script = .ok (.ok s, log)) :
    verify m O p kp.1 msg s.sig ctx = .ok true := by
  rw [sign_eq] at hs
  obtain ⟨hc, rnd, hs'⟩ := signEntry_ok_inv hs
  rw [C07.verify_accepts_short_ctx m O p kp.1 msg s.sig ctx hc]
  exact sign_then_verify m O hO p hp fuel hfuel xi kp hkg msg ctx [] [] rnd false s hs'

/-- `try_hash_sign_with_rng` then `hash_verify` (Algorithms 4 and 5), every RNG script and pre-hash function -/
theorem api_hash_sign_then_verify (m : Mode) (O : Oracles) (hO : OracleOk O) (p : ParamSet) (hp : p ∈ [ml_dsa_44, ml_dsa_65, ml_dsa_87])
    (fuel : Nat) (hfuel : fuel * p.l ≤ 65535) (xi : List Nat) (kp : PublicKey × PrivateKey)
    (hkg : keygenFromSeed m O p xi = .ok kp) (msg ctx : List Nat) (ph : Ph) (script : List RngResp) (s : SignOut) (log : List RngCall)
    (hs : hashSign m O p fuel kp.2 msg ctx ph script = .ok (.ok s, log)) :
    hashVerify m O p kp.1 msg s.sig ctx ph = .ok true := by
  rw [hashSign_eq] at hs
  obtain ⟨hc, rnd, hs'⟩ := signEntry_ok_inv hs
  rw [C07.hashVerify_accepts_short_ctx m O p kp.1 msg s.sig ctx ph hc]
  exact sign_then_verify m O hO p hp fuel hfuel xi kp hkg msg ctx _ _ rnd false s hs'

end Fips204.Props.C01
