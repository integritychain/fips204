import Fips204.Lemmas.MulPipeline
/-!
# C18 (continued) — the NTT pipelines compute negacyclic products modulo q

* `challenge_times_secret_is_the_ring_product`: for every polynomial `c` and every vector `s` with coefficients of
  magnitude up to `2^19` (every challenge; every `s1`, `s2`, `t0`), the signer's pipeline - `ntt(c)`, the stored
  `to_mont(ntt(s))`, Montgomery pointwise product, `inv_ntt` - returns, without overflow, canonical residues congruent
  to `c * s_i` in `Z_q[X]/(X^256 + 1)`.
* `matrix_row_times_vector_is_the_ring_sum`: for every canonical matrix row `A_hat` (representing polynomials `a_j`,
  i.e. `A_hat_j ≡ NTT(a_j)`) of at most 7 entries and every vector `y` with coefficients up to `2^19`, the transform /
  multiply-accumulate / inverse-transform pipeline returns canonical residues congruent to `sum_j a_j * y_j`.
* `ntt_domain_product_is_ring_product` (specification level): `NTT(a * b) ≡ NTT(a) ∘ NTT(b)` and
  `invNTT-butterflies(NTT(a) ∘ NTT(b)) ≡ 2^8 (a * b)`.

`negMul a b` is the schoolbook product of the coefficient lists reduced by `X^256 = -1` (`Lemmas/NttMul`).
Proof: the exact-integer specification of the forward butterflies evaluates the polynomial at 256 residues that are
roots of `X^256 + 1` (the generated table holds `1753^bitrev8(k) * 2^32 mod q` - one kernel evaluation, `zetaTable_eq` - so it is a
tree of square roots: `zeta_{2k}^2 = zeta_k`, `zeta_{2k+1}^2 = -zeta_k`, `zeta_1^2 = -1`, from `1753^256 = -1`); Horner evaluation is multiplicative on schoolbook products and
respects the reduction; the implementation is congruent to the specifications inside the overflow envelopes; the inverse
specification undoes the forward one (C09).  With the overflow theorems of `Props/C18` this is the whole property.
-/
namespace Fips204.Props.C18
open Fips204 Fips204.Gen Fips204.Impl

theorem ntt_domain_product_is_ring_product (a b : List Int) (ha : a.length = 256) (hb : b.length = 256) :
    CongL (nttS 8 1 (negMul a b)) (List.zipWith (fun x y => x * y) (nttS 8 1 a) (nttS 8 1 b)) ∧
    CongL (invS 8 1 (List.zipWith (fun x y => x * y) (nttS 8 1 a) (nttS 8 1 b))) ((negMul a b).map (fun x => 2 ^ 8 * x)) :=
  ⟨nttS_negMul a b ha hb, invS_pointwise a b ha hb⟩

theorem challenge_times_secret_is_the_ring_product (m : Mode) (site : String) (c : Poly) (s : List Poly) (lc : c.length = 256)
    (hc : ∀ x ∈ c, -524288 ≤ x ∧ x ≤ 524288) (hs : ∀ q ∈ s, q.length = 256 ∧ ∀ x ∈ q, -524288 ≤ x ∧ x ≤ 524288) :
    ∃ ch sh r, nttPoly m c = .ok ch ∧ nttMont m s = .ok sh ∧ mulInv m site ch sh = .ok r ∧ r.length = s.length ∧
      ∀ i (h1 : i < r.length) (h2 : i < s.length), (∀ x ∈ r[i], 0 ≤ x ∧ x < 8380417) ∧ CongL r[i] (negMul c s[i]) := by
  obtain ⟨ch, sh, h1, h2, h3⟩ := mulInv_eq m site c s lc hc hs
  refine ⟨ch, sh, _, h1, h2, h3, List.length_map _, fun i _ _ => ?_⟩
  rw [List.getElem_map]
  exact ⟨(canon_can _).lt, canon_cong _⟩

theorem matrix_row_times_vector_is_the_ring_sum (m : Mode) (row as ys : List Poly) (hr : RowA row as) (hl : ys.length = row.length)
    (hn : row.length ≤ 7) (hy : ∀ y ∈ ys, y.length = 256 ∧ ∀ x ∈ y, -524288 ≤ x ∧ x ≤ 524288) :
    ∃ yh r w, ntt m ys = .ok yh ∧ matVecMul m [row] yh = .ok [r] ∧ invNttPoly m r = .ok w ∧
      (∀ x ∈ w, 0 ≤ x ∧ x < 8380417) ∧ CongL w (sumProd as ys zeroPoly) := by
  obtain ⟨yh, r, w, h1, h2, h3, h4, h5⟩ := commitment_row_sem m row as ys hr hn hy
  exact ⟨yh, r, w, h1, h2, h3, h4.lt, h5⟩

/-- non-vacuity / sanity of the product definition: `X^255 * X = -1` -/
example : negMul (List.replicate 255 0 ++ [1]) (0 :: 1 :: List.replicate 254 0) = (-1) :: List.replicate 255 0 := negMul_x255_x

end Fips204.Props.C18
