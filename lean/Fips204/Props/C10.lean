import Fips204.Impl.Legacy
import Fips204.Lemmas.Encodings
/-!
# C10 — malformed private keys are rejected at deserialisation

Proved for all byte strings (repaired tree): whatever `bit_unpack` *accepts* has every coefficient in
`[-a, b]`; hence every private key that `sk_decode` / `expand_private` accepts has all `s1`, `s2`
coefficients in `[-eta, eta]` and all `t0` coefficients in `[-2^12+1, 2^12]` - exactly the ranges the
serialiser's own self-check (`sk_encode`'s `debug_assert!`s) demands.  The pinned tree's definition is
refuted by a concrete accepted key field (F1).  The converse (every in-range string is accepted) is
`sk_decode_accepts_exactly_the_in_range_keys` in `Props/C10b`; it is also decided by differential execution over every
out-of-range field value and position class.
-/
namespace Fips204.Props.C10
open Fips204 Fips204.Gen Fips204.Impl

theorem isInRange_spec (m : Mode) (w : Poly) (lo hi : Int) (hlo : -2147483647 ≤ lo) (hlo2 : lo ≤ 2147483648)
    (h : isInRange m w lo hi = .ok true) : ∀ c ∈ w, -lo ≤ c ∧ c ≤ hi := by
  rw [isInRange_eq m w lo hi ⟨hlo, hlo2⟩] at h
  exact (inR_iff lo hi w).mp (ok_inj h)

/-- whatever `bit_unpack` accepts lies in `[-a, b]` -/
theorem bitUnpack_accepts_only_in_range (m : Mode) (v : List Nat) (a b : Int) (w : Poly)
    (ha : 0 ≤ a) (ha2 : a ≤ 2147483647)
    (h : bitUnpack m v a b = .ok (some w)) : ∀ c ∈ w, -a ≤ c ∧ c ≤ b :=
  (bitUnpack_range m v a b w ⟨ha, ha2⟩ h).2

theorem unpackMany_in_range (m : Mode) (site : String) (bytes : List Nat) (start step : Nat) (a b : Int)
    (ha : 0 ≤ a) (ha2 : a ≤ 2147483647) :
    ∀ (is : List Nat) (acc res : List Poly), (∀ p ∈ acc, ∀ c ∈ p, -a ≤ c ∧ c ≤ b) →
      unpackMany m site bytes start step a b is acc = .ok (some res) → ∀ p ∈ res, ∀ c ∈ p, -a ≤ c ∧ c ≤ b :=
  fun is acc res hacc h => (unpackMany_all m site bytes start step a b _
    (fun v t ht => bitUnpack_accepts_only_in_range m v a b t ha ha2 ht) is acc res hacc h).2

/-- every private key accepted by `sk_decode` has s1, s2 in [-eta, eta] and t0 in [-2^12+1, 2^12] -/
theorem skDecode_accepts_only_in_range (m : Mode) (p : ParamSet) (skb : List Nat) (s : SkParts)
    (he : 0 ≤ p.eta ∧ p.eta ≤ 2147483647) (h : skDecode m p skb = .ok (some s)) :
    (∀ q ∈ s.s1, ∀ c ∈ q, -p.eta ≤ c ∧ c ≤ p.eta) ∧ (∀ q ∈ s.s2, ∀ c ∈ q, -p.eta ≤ c ∧ c ≤ p.eta) ∧
    (∀ q ∈ s.t0, ∀ c ∈ q, -(top - 1) ≤ c ∧ c ≤ top) :=
  let ⟨_, v1, v2, v0⟩ := skDecode_accepts m p skb s he h
  ⟨v1.2, v2.2, v0.2⟩

/-- **F1 (pinned tree), machine-checked**: the pinned `bit_unpack` accepts an `s1` field encoding 7, i.e. the
    coefficient -5 < -eta = -2 (first byte 0x07 of a 96-byte, 3-bits-per-coefficient block) -/
theorem legacy_accepts_out_of_range :
    ((Legacy.bitUnpack .checked (7 :: List.replicate 95 0) 2 2).toOption.bind id).map (fun w => w.head!) = some (-5) := by
  decide +kernel

/-- ... and the repaired definition rejects the same block -/
theorem repaired_rejects_it : (bitUnpack .checked (7 :: List.replicate 95 0) 2 2).toOption = some none := by
  decide +kernel


end Fips204.Props.C10
