import Fips204.Props.C13c
/-!
# C03 (continued) — signing *is* Algorithm 7

`signSpec` (`Lemmas/SignSpec`) is ML-DSA.Sign_internal written with exact arithmetic modulo q, on the vectors
`(s1, s2, t0)` a private key encodes: `A_hat <- ExpandA(rho)`; `mu`; `rho'' <- H(K || rnd || mu)`; loop over `kappa`:
`y <- ExpandMask(rho'', kappa)`; `w <- NTT^-1(A_hat ∘ NTT(y))` (`commitS`, exact butterflies, canonical representatives);
`w1 <- HighBits(w)`; `c~ <- H(mu || w1Encode(w1))`; `c <- SampleInBall(c~)`; `<<cs1>> = c * s1`, `<<cs2>> = c * s2` in
`Z_q[X]/(X^256+1)` (`cmul`: canonical negacyclic product); `z <- y + <<cs1>>` (centred); `r0 <- LowBits(w - <<cs2>>)`;
reject if `‖z‖∞ ≥ gamma1 - beta` or `‖r0‖∞ ≥ gamma2 - beta`; `<<ct0>> = c * t0`; `h <- MakeHint(-<<ct0>>, w - <<cs2>> + <<ct0>>)`;
reject if `‖<<ct0>>‖∞ ≥ gamma2` or more than omega ones; `sigma <- sigEncode(c~, z mod± q, h)`.

* `signing_is_algorithm_7`: for each parameter set, every private key deserialisation accepts, every message, context,
  pre-hash and randomness, `sign_internal` on the struct `expand_private` built returns exactly what `signSpec` returns on
  the decoded `(rho, K, tr, s1, s2, t0)` - in both build modes, within `fuel * l ≤ 65535` attempts (the crate's `u16`
  counter; see C13c).  `generated_key_signing_is_algorithm_7`: the same for the struct key generation returns, on the
  vectors key generation sampled.
* With the wrapper theorems `sign_is_alg2_wrapper`, `hashSign_is_alg4_wrapper` of `Props/C03` (context guard, one 32-byte draw,
  M' formatting, OID table) this is the whole property; determinism in (sk, M, ctx, mode, rnd) is immediate since `signSpec` is a function.
-/
namespace Fips204.Props.C03
open Fips204 Fips204.Gen Fips204.Impl

theorem signing_is_algorithm_7 (m : Mode) (O : Oracles) (hO : OracleOk O) (p : ParamSet) (hp : p ∈ [ml_dsa_44, ml_dsa_65, ml_dsa_87])
    (fuel : Nat) (hfuel : fuel * p.l ≤ 65535) (skb : List Nat) (sk : PrivateKey) (hsk : expandPrivate m p skb = .ok (some sk))
    (msg ctx oid phm rnd : List Nat) (nist : Bool) :
    ∃ d, skDecode m p skb = .ok (some d) ∧
      signInternal m O CTEST_default p fuel sk msg ctx oid phm rnd nist =
        signSpec m O p fuel d.rho d.key d.tr d.s1 d.s2 d.t0 msg ctx oid phm rnd nist := by
  obtain ⟨blz, cfg, hk, he4⟩ := C13.signCfg_of_mem p hp
  obtain ⟨d, hr, e1, e2, e3, hof⟩ := expandPrivate_skOf m p he4 skb sk hsk
  refine ⟨d, hr, ?_⟩
  rw [← e1, ← e2, ← e3]
  exact signInternal_eq_spec m O hO p blz cfg hk he4 fuel hfuel _ d.s1 d.s2 d.t0 hof msg ctx oid phm rnd nist

theorem generated_key_signing_is_algorithm_7 (m : Mode) (O : Oracles) (hO : OracleOk O) (p : ParamSet) (hp : p ∈ [ml_dsa_44, ml_dsa_65, ml_dsa_87])
    (fuel : Nat) (hfuel : fuel * p.l ≤ 65535) (kp : PublicKey × PrivateKey) (hg : GenOk m O p kp) (msg ctx oid phm rnd : List Nat) (nist : Bool) :
    ∃ s1 s2 t0, nttMont m s1 = .ok kp.2.s1 ∧ nttMont m s2 = .ok kp.2.s2 ∧ nttMont m t0 = .ok kp.2.t0 ∧
      signInternal m O CTEST_default p fuel kp.2 msg ctx oid phm rnd nist =
        signSpec m O p fuel kp.2.rho kp.2.key kp.2.tr s1 s2 t0 msg ctx oid phm rnd nist := by
  obtain ⟨blz, cfg, hk, he4⟩ := C13.signCfg_of_mem p hp
  obtain ⟨s1, s2, t0, _, _, hof, _⟩ := hg.skOf
  exact ⟨s1, s2, t0, hof.n1, hof.n2, hof.n0, signInternal_eq_spec m O hO p blz cfg hk he4 fuel hfuel kp.2 s1 s2 t0 hof msg ctx oid phm rnd nist⟩

end Fips204.Props.C03
