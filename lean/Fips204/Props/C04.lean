import Fips204.Props.C12
/-!
# C04 — key generation is exactly the FIPS 204 function of the 32-byte seed

Proved (all seeds, all oracles, all scripts): the RNG-driven variant is the seeded variant applied to the
32 bytes it drew, or `Err`; key generation has no other source of variation; the seed expansion
`H(xi ‖ k ‖ l)` is split into rho / rho' / K as Algorithm 6 line 1 says, and both keys carry the same rho and tr.
That `t = A s1 + s2` through the NTT pipeline is the exact product, and with it key generation = Algorithm 6, is
`key_generation_is_algorithm_6` in `Props/C04b` (exact arithmetic) and
`key_generation_is_fips_204_algorithm_6_as_written` in `Props/C04c` (the standard as written).
-/
namespace Fips204.Props.C04
open Fips204 Fips204.Gen Fips204.Impl

/-- Algorithm 1 = Algorithm 6 on the drawn seed -/
theorem keygen_rng_is_seeded (m : Mode) (O : Oracles) (p : ParamSet) (xi : List Nat) (rest : List RngResp)
    (h : xi.length = 32) :
    keygenWithRng m O p (RngResp.ok xi :: rest) =
      (do let kp ← keygenFromSeed m O p xi; pure (.ok kp, [.tryFill 32])) :=
  C12.keygen_uses_all_drawn_bytes m O p xi rest h

/-- a failing generator yields `Err` and no key -/
theorem keygen_rng_failure (m : Mode) (O : Oracles) (p : ParamSet) (script : List RngResp) (h : C12.Fails script) :
    keygenWithRng m O p script = .ok (.error .rng, [.tryFill 32]) :=
  C12.keygen_reports_rng_failure m O p script h

/-- the unused tail of the script cannot influence the keys -/
theorem keygen_ignores_rest_of_script (m : Mode) (O : Oracles) (p : ParamSet) (xi : List Nat) (r1 r2 : List RngResp)
    (h : xi.length = 32) :
    keygenWithRng m O p (RngResp.ok xi :: r1) = keygenWithRng m O p (RngResp.ok xi :: r2) := by
  rw [keygen_rng_is_seeded m O p xi r1 h, keygen_rng_is_seeded m O p xi r2 h]

/-- Algorithm 6 line 1 and lines 8-10: how the seed expansion is split and what the two structs share -/
theorem keygen_seed_split (m : Mode) (O : Oracles) (p : ParamSet) (xi : List Nat) (pk : PublicKey) (sk : PrivateKey)
    (h : keygenFromSeed m O p xi = .ok (pk, sk)) :
    let hh := O.h (xi ++ [p.k % 256, p.l % 256]) 128
    pk.rho = hh.take 32 ∧ sk.rho = hh.take 32 ∧ sk.key = (hh.drop 96).take 32 ∧ pk.tr = sk.tr := by
  exact keyGenInternal_fields m O _ p xi pk sk h

end Fips204.Props.C04
