import Fips204.Lemmas.SpecKeygen
import Fips204.Props.C11b
/-!
# C11 (continued) — the public key derived from the standard's private-key bytes is the standard's public key

With `keygen_is_algorithm_6_as_written` (C04c) the struct-level theorem `derived_public_key_is_the_generated_one` (C11b) becomes a statement from
bytes to bytes about `Spec.keyGenInternal`, the literal transcription of Algorithm 6:

* `derived_public_key_bytes_are_the_standards` — for each parameter set, every oracle and every seed, in both build modes: if Algorithm 6 returns
  `(pk, sk)`, then deserialising `sk` succeeds, `private_to_public_key` of the resulting struct succeeds, and serialising the derived public key
  gives exactly `pk`.
-/
namespace Fips204.Props.C11
open Fips204 Fips204.Gen Fips204.Impl

theorem derived_public_key_bytes_are_the_standards (m : Mode) (O : Oracles) (hO : OracleOk O) (p : ParamSet)
    (hp : p ∈ [ml_dsa_44, ml_dsa_65, ml_dsa_87]) (xi pk sk : List Nat)
    (hkg : Spec.keyGenInternal (specParams p) O.h O.g (1680 * O.fuelScale) (1088 * O.fuelScale) xi = some (pk, sk)) :
    ∃ sk' pk', expandPrivate m p sk = .ok (some sk') ∧ privateToPublicKey m O p sk' = .ok pk' ∧ pkIntoBytes m p pk' = .ok pk := by
  obtain ⟨kp, hkp, hpkI, hskI⟩ := keygen_of_algorithm_6 m O hO p hp xi pk sk hkg
  obtain ⟨_, skb', hs1, sk', hs2, hs3⟩ := (derived_public_key_is_the_generated_one m O hO p hp xi).ok_elim hkp
  rw [hskI] at hs1
  have := ok_inj hs1; subst this
  exact ⟨sk', kp.1, hs2, hs3, hpkI⟩

end Fips204.Props.C11
