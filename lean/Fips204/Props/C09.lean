import Fips204.Props.C10
import Fips204.Lemmas.VerifyOk
/-!
# C09 — key serialisation round-trips exactly and preserves behaviour

Proved for all byte strings and oracles: where the fields of a deserialised key come from - rho / K / tr are
the corresponding slices of the input, the public key's tr is H(input bytes) - and that an accepted private key
has coefficient sections inside the ranges the serialiser's own self-check demands (C10), so re-serialisation
cannot trip it.  Proved as well: **every** byte string of public-key length deserialises (no rejection, no fault).
`into_bytes ∘ try_from_bytes = id` for every input - exact NTT inversion (C18) composed with the codec bijections (C08) -
is in `Props/C09b`, the struct-level round trip of generated keys in `Props/C09c`; both are also decided on every run on
extremal and random keys, both profiles.
-/
namespace Fips204.Props.C09
open Fips204 Fips204.Gen Fips204.Impl

/-- a deserialised public key: rho is the first 32 bytes, tr the hash of the whole encoding -/
theorem expandPublic_fields (m : Mode) (O : Oracles) (p : ParamSet) (pkb : List Nat) (pk : PublicKey)
    (h : expandPublic m O p pkb = .ok (some pk)) :
    slice "encodings.rs:pk_decode:pk[0..32]" pkb 0 32 = .ok pk.rho ∧ pk.tr = O.h pkb 64 := by
  simp only [expandPublic, bind_eq_ok, pure_eq_ok, Option.exists, reduceCtorEq, and_false, false_or, Option.some.injEq] at h
  obtain ⟨d, hd, _, -, rfl⟩ := h
  refine ⟨?_, rfl⟩
  simp only [pkDecode, bind_eq_ok, pure_eq_ok, Option.exists, reduceCtorEq, and_false, false_or, Option.some.injEq] at hd
  obtain ⟨_, -, _, -, rho, hrho, _, -, _, -, rfl⟩ := hd
  exact hrho

/-- a deserialised private key: rho, K, tr are the three leading slices of the input, unchanged -/
theorem expandPrivate_fields (m : Mode) (p : ParamSet) (skb : List Nat) (sk : PrivateKey)
    (h : expandPrivate m p skb = .ok (some sk)) :
    ∃ s : SkParts, skDecode m p skb = .ok (some s) ∧ sk.rho = s.rho ∧ sk.key = s.key ∧ sk.tr = s.tr := by
  simp only [expandPrivate, bind_eq_ok, pure_eq_ok, Option.exists, reduceCtorEq, and_false, false_or, Option.some.injEq] at h
  obtain ⟨s, hd, _, -, _, -, _, -, rfl⟩ := h
  exact ⟨s, hd, rfl, rfl, rfl⟩

/-- what deserialisation accepted is inside the ranges that `sk_encode` asserts (so `into_bytes` cannot trip them) -/
theorem accepted_sk_sections_in_range (m : Mode) (p : ParamSet) (skb : List Nat) (s : SkParts)
    (he : 0 ≤ p.eta ∧ p.eta ≤ 2147483647) (h : skDecode m p skb = .ok (some s)) :
    (∀ q ∈ s.s1, ∀ c ∈ q, -p.eta ≤ c ∧ c ≤ p.eta) ∧ (∀ q ∈ s.s2, ∀ c ∈ q, -p.eta ≤ c ∧ c ≤ p.eta) ∧
    (∀ q ∈ s.t0, ∀ c ∈ q, -(top - 1) ≤ c ∧ c ≤ top) :=
  C10.skDecode_accepts_only_in_range m p skb s he h

/-- **every byte string of public-key length deserialises successfully** (first clause of the property), in both build
    modes: no rejection (10-bit fields always fit [0, 1023]), no overflow in the verifier precompute; rho is the first
    32 bytes and tr the hash of the encoding -/
theorem every_pk_string_deserialises (m : Mode) (O : Oracles) (p : ParamSet) (hp : p ∈ [ml_dsa_44, ml_dsa_65, ml_dsa_87])
    (pkb : List Nat) (hb : ∀ x ∈ pkb, x < 256) (hlen : pkb.length = p.pkLen) :
    ∃ pk : PublicKey, expandPublic m O p pkb = .ok (some pk) ∧ pk.rho = pkb.take 32 ∧ pk.tr = O.h pkb 64 :=
  have hcfg := pkLen_of_mem p hp
  let ⟨_, _, _, _, h, hrho, _⟩ := expandPublic_eq m O p pkb hb (by rw [hlen, hcfg]) hcfg
  ⟨_, h, hrho, rfl⟩

end Fips204.Props.C09
