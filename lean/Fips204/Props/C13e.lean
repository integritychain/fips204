import Fips204.Props.C09b
import Fips204.Props.C09c
/-!
# C13 (continued) — serialisation never panics

`into_bytes` of a public key obtained from any byte string, of a private key obtained from any accepted byte string,
and of both keys of any generated pair returns bytes in both build modes: its range self-checks (`pk_encode`:
`t1 ∈ [0, 2^10)`; `sk_encode`: `s1, s2 ∈ [-eta, eta]`, `t0 ∈ (-2^12, 2^12]`) cannot fire, because the NTT-domain vectors
held in the structs are transforms of in-range vectors and the inverse transform recovers them exactly (C09).
With `C13b` (verification, deserialisation), `C13c` (signing) and `C13d` (key generation, derivation) this covers every
public entry point listed in the property.
-/
namespace Fips204.Props.C13
open Fips204 Fips204.Gen Fips204.Impl

theorem serialisation_never_panics (m : Mode) (O : Oracles) (hO : OracleOk O) (p : ParamSet) (hp : p ∈ [ml_dsa_44, ml_dsa_65, ml_dsa_87]) :
    (∀ pkb : List Nat, (∀ x ∈ pkb, x < 256) → pkb.length = p.pkLen →
      ∃ pk, expandPublic m O p pkb = .ok (some pk) ∧ ∃ out, pkIntoBytes m p pk = .ok out) ∧
    (∀ (skb : List Nat) (sk : PrivateKey), (∀ x ∈ skb, x < 256) → skb.length = p.skLen → expandPrivate m p skb = .ok (some sk) →
      ∃ out, skIntoBytes m p sk = .ok out) ∧
    (∀ xi : List Nat, NoPanic (keygenFromSeed m O p xi) (fun kp => (∃ out, pkIntoBytes m p kp.1 = .ok out) ∧ ∃ out, skIntoBytes m p kp.2 = .ok out)) := by
  refine ⟨fun pkb hb hl => ?_, fun skb sk hb hl h => ⟨skb, C09.private_key_bytes_round_trip m p hp skb hb hl sk h⟩, fun xi => ?_⟩
  · obtain ⟨pk, h1, h2⟩ := C09.public_key_bytes_round_trip m O p hp pkb hb hl
    exact ⟨pk, h1, pkb, h2⟩
  · exact (C09.generated_keys_round_trip_to_the_same_structs m O hO p hp xi).mono
      (fun kp ⟨pkb, skb, h1, _, _, h4, _, _⟩ => ⟨⟨pkb, h1⟩, ⟨skb, h4⟩⟩)

end Fips204.Props.C13
