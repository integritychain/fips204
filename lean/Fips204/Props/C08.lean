import Fips204.Props.C10
/-!
# C08 — signature and polynomial encodings are canonical

Proved for all byte strings: a signature that decodes has its response coefficients in
`[-(gamma1-1), gamma1]` (whatever `bit_unpack` accepts is in range, C10).  (That decoding fails as soon as the hint
section does is read off `sigDecode_is_algorithm_27`, `Lemmas/SpecEncode`; no theorem here says it.)  Every hint section of the right length either is rejected or re-encodes to itself, and never
faults (`canonicalOn_true`: the hint codec is Algorithms 20 / 21, which are mutually inverse, `Lemmas/HintCodec`, `Lemmas/SpecHint`); the two
tables for the reduced parameters (k, omega) = (1,2), (2,2) over the alphabet {0,1,2,3,255} are instances of it.
The characterisation of the hint codec and the BitPack/BitUnpack bijection at full parameters are in `Props/C08b`; all of it
is also decided on every run against a bit-level FIPS 204 reference (Algorithms 9-21) including exhaustive reduced-parameter
enumeration.
-/
namespace Fips204.Props.C08
open Fips204 Fips204.Gen Fips204.Impl

/-- decoded response coefficients are always inside the encoder's domain `[-(gamma1-1), gamma1]` -/
theorem sigDecode_z_in_range (m : Mode) (p : ParamSet) (sig cT : List Nat) (z h : List Poly)
    (hp : 1 ≤ p.gamma1 ∧ p.gamma1 ≤ 2147483647)
    (hd : sigDecode m p sig = .ok (some (cT, z, h))) : ∀ q ∈ z, ∀ c ∈ q, -(p.gamma1 - 1) ≤ c ∧ c ≤ p.gamma1 := by
  simp only [sigDecode, arith_i32 _ "encodings.rs:sig_decode:gamma1-1" (p.gamma1 - 1) (by omega) (by omega), ok_bind, bind_eq_ok,
    pure_eq_ok, Option.exists, reduceCtorEq, and_false, false_or, Option.some.injEq, Prod.mk.injEq] at hd
  -- in the order of the model's text: assert size, c~, bitlen, the section `z'`, the hint slice, the hint, the returned triple
  obtain ⟨_, -, _, -, _, -, z', hz, _, -, _, -, -, rfl, -⟩ := hd
  exact C10.unpackMany_in_range m _ _ _ _ _ _ (by omega) (by omega) _ [] _ (by simp) hz

/-- the three parameter sets satisfy the side condition -/
theorem gamma1_fits : ∀ p ∈ [ml_dsa_44, ml_dsa_65, ml_dsa_87], 1 ≤ p.gamma1 ∧ p.gamma1 ≤ 2147483647 := by decide

/-- `BitUnpack` never faults and returns exactly 256 coefficients, each from one bitlen-bit field; and when
    `a + b + 1 = 2^bitlen` - every pair in use except (eta, eta) and (0, 43) - **every** byte string is accepted -/
theorem bitUnpack_total_on_exact_pairs (m : Mode) (v : List Nat) (a b : Int) (bl : Nat) (ha : 0 ≤ a ∧ a < 1048576)
    (hb : 1 ≤ b ∧ b < 1048576) (hbl : bitLen m (a + b) = .ok bl) (hbl2 : 1 ≤ bl ∧ bl ≤ 20) (hpow : a + b + 1 = 2 ^ bl)
    (hv : ∀ x ∈ v, x < 256) (hlen : v.length = 32 * bl) :
    ∃ w : List Int, bitUnpack m v a b = .ok (some w) ∧ w.length = 256 ∧ ∀ c ∈ w, -a ≤ c ∧ c ≤ b :=
  bitUnpack_exact (.of_bitLen ha hb hbl hbl2) v hpow hv hlen

/-- all hint sections of length omega + k over a byte alphabet -/
def allStrings (alpha : List Nat) : Nat → List (List Nat)
  | 0 => [[]]
  | n + 1 => (allStrings alpha n).flatMap (fun s => alpha.map (fun a => a :: s))

/-- one string is fine: rejected, or accepted and re-encoding to itself; never a fault -/
def canonicalOn (k : Nat) (omega : Int) (y : List Nat) : Bool :=
  match hintBitUnpack .checked k omega y with
  | .ok none => true
  | .ok (some h) => (hintBitPack .checked false omega h y.length).toOption == some y
  | .error _ => false

theorem allStrings_mem (alpha : List Nat) : ∀ n, ∀ s ∈ allStrings alpha n, s.length = n ∧ ∀ b ∈ s, b ∈ alpha := by
  intro n
  induction n with
  | zero =>
    intro s hs
    simp only [allStrings, List.mem_singleton] at hs
    subst hs
    simp
  | succ n ih =>
    intro s hs
    simp only [allStrings, List.mem_flatMap, List.mem_map] at hs
    obtain ⟨t, ht, a, ha, rfl⟩ := hs
    obtain ⟨h1, h2⟩ := ih t ht
    refine ⟨by rw [List.length_cons, h1], fun b hb => ?_⟩
    rcases List.mem_cons.mp hb with rfl | hb
    · exact ha
    · exact h2 b hb

/-- every hint section of the right length is rejected, or accepted and re-encoded to itself; never a fault -/
theorem canonicalOn_true (k : Nat) (omega : Int) (y : List Nat) (hy : ∀ b ∈ y, b < 256) (ho : 0 ≤ omega)
    (hk : 1 ≤ omega.toNat + k ∧ omega.toNat + k < 256) (hlen : y.length = omega.toNat + k) : canonicalOn k omega y = true := by
  unfold canonicalOn
  obtain ⟨r, hr, _⟩ := hintBitUnpack_ok .checked k omega y hy ho hk hlen
  rw [hr]
  cases r with
  | none => rfl
  | some h =>
    simp only []
    rw [hlen, hintBitPack_hintBitUnpack .checked k omega y hy ho hk hlen h hr]
    simp [Except.toOption]

/-- the table for the reduced parameters k = 1, omega = 2 (complete over this alphabet) -/
theorem hint_canonical_k1_w2 : (allStrings [0, 1, 2, 3, 255] 3).all (canonicalOn 1 2) = true :=
  List.all_eq_true.mpr fun y hy => by
    obtain ⟨h1, h2⟩ := allStrings_mem _ 3 y hy
    exact canonicalOn_true 1 2 y (fun b hb => by have := h2 b hb; simp at this; omega) (by decide) (by decide) h1
/-- the table for k = 2, omega = 2 -/
theorem hint_canonical_k2_w2 : (allStrings [0, 1, 2, 3, 255] 4).all (canonicalOn 2 2) = true :=
  List.all_eq_true.mpr fun y hy => by
    obtain ⟨h1, h2⟩ := allStrings_mem _ 4 y hy
    exact canonicalOn_true 2 2 y (fun b hb => by have := h2 b hb; simp at this; omega) (by decide) (by decide) h1

end Fips204.Props.C08
