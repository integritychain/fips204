import Fips204.Lemmas.NttContracts
/-!
# C18 — NTT-based polynomial products equal the negacyclic product mod q; no 32-bit overflow

Proved (all inputs, both build modes):
* **the repaired inverse transform cannot overflow**: for every input vector in the domain of
  `partial_reduce32` (|w_i| ≤ 2 143 289 343 - every value its callers can supply, adversarial or not)
  `inv_ntt` returns without fault and every output coefficient is a canonical residue in [0, q);
* **F3 is real on the pinned tree**: the unrepaired definition (`Legacy`) faults in the checked build on a
  constant vector of magnitude 2^23 (inside the envelope `l (q/2 + 32705)` of `mat_vec_mul`): on a constant vector the
  butterflies double the constant per layer (`invRec_const`), so the unreduced copy reaches 2^31 in the last one;
* every entry of the generated Montgomery zeta table is a canonical residue.
* **the whole lazy pipeline is overflow-free on its call-site envelopes**: forward NTT on coefficients up to 2^19,
  `to_mont`, `mat_vec_mul` on canonical matrices, and their compositions - the verifier's
  `invNTT(A z - c t1 2^d)` for *any* decodable response vector, the signer's `invNTT(A y)`, key generation's `A s1`.
That these pipelines compute the negacyclic product modulo q is `Props/C18b` (and is also decided on every run against the
schoolbook product in big integers on basis polynomials x scalars, extremal sign patterns per call-site range and random
inputs); that the matrix entries are canonical is a hypothesis here (they come from `CoeffFromThreeBytes`, C15).
-/
namespace Fips204.Props.C18
open Fips204 Fips204.Gen Fips204.Impl

/-- no input that fits `partial_reduce32`'s domain can make the (repaired) inverse NTT overflow or assert -/
theorem inv_ntt_never_overflows (m : Mode) (ws : List (List Int)) (hw : ∀ w ∈ ws, ∀ x ∈ w, -2143289343 ≤ x ∧ x ≤ 2143289343) :
    ∃ r, invNtt m ws = .ok r ∧ ∀ w' ∈ r, ∀ x ∈ w', 0 ≤ x ∧ x < Q :=
  res_lt_of_ok (invNtt_ok m ws hw)

/-- in particular: the unreduced output of `mat_vec_mul` (at most l + 1 ≤ 8 Montgomery products of magnitude
    below q each, so |w_i| < 8 q) is always safe, for all three parameter sets -/
theorem inv_ntt_safe_after_mat_vec_mul (m : Mode) (ws : List (List Int)) (hw : ∀ w ∈ ws, ∀ x ∈ w, -(8 * Q) ≤ x ∧ x ≤ 8 * Q) :
    ∃ r, invNtt m ws = .ok r ∧ ∀ w' ∈ r, ∀ x ∈ w', 0 ≤ x ∧ x < Q :=
  res_lt_of_ok (invNtt_ok m ws (fun w h x hx => by have := hw w h x hx; simp only [Q] at this; omega))

/-- the forward transform never overflows on coefficients up to 2^19 in magnitude (the mask y, the response z, and
    everything smaller: s1, s2, t0, t1, the challenge), and stays inside `to_mont`'s domain -/
theorem forward_ntt_never_overflows (m : Mode) (ws : List (List Int)) (hw : ∀ w ∈ ws, ∀ x ∈ w, -524288 ≤ x ∧ x ≤ 524288) :
    ∃ r, ntt m ws = .ok r ∧ ∀ w' ∈ r, ∀ x ∈ w', -34284028 ≤ x ∧ x ≤ 34284028 :=
  ntt_ok m ws hw

/-- `mat_vec_mul` (to_mont, Montgomery multiply, unreduced accumulation over a row of at most n <= 200 entries) never
    overflows for canonical matrix entries and any vector inside `to_mont`'s proved domain -/
theorem mat_vec_mul_never_overflows (m : Mode) (a : List (List Poly)) (u : List Poly) (n : Nat)
    (ha : ∀ row ∈ a, row.length ≤ n ∧ ∀ p ∈ row, ∀ x ∈ p, 0 ≤ x ∧ x ≤ 8380416)
    (hu : ∀ w ∈ u, ∀ x ∈ w, -67000000 ≤ x ∧ x ≤ 67000000) (hn : n ≤ 200) :
    ∃ r, matVecMul m a u = .ok r ∧ ∀ w ∈ r, ∀ x ∈ w, -((n : Int) * 8380416) ≤ x ∧ x ≤ (n : Int) * 8380416 :=
  matVecMul_ok m a u n ha hu hn

/-- **Algorithm 8 step 9 as the crate computes it never overflows, for an adversary's response vector**: any `z` that
    `sigDecode` can return (|z_i| <= 2^19), any challenge in {-1,0,1}^256, a canonical matrix with at most 7 columns and
    any key precompute inside (-2q, 2q): the result exists in both build modes and is a vector of canonical residues -/
theorem verify_pipeline_never_overflows (m : Mode) (aHat : List (List Poly)) (z : List Poly) (c : Poly) (t1d2 : List Poly)
    (hA : ∀ row ∈ aHat, row.length ≤ 7 ∧ ∀ p ∈ row, ∀ x ∈ p, 0 ≤ x ∧ x ≤ 8380416)
    (hz : ∀ w ∈ z, ∀ x ∈ w, -524288 ≤ x ∧ x ≤ 524288) (hc : ∀ x ∈ c, -1 ≤ x ∧ x ≤ 1)
    (ht : ∀ w ∈ t1d2, ∀ x ∈ w, -16760833 ≤ x ∧ x ≤ 16760833) :
    ∃ r, wApproxOf m aHat z c t1d2 = .ok r ∧ ∀ w ∈ r, ∀ x ∈ w, 0 ≤ x ∧ x < Q :=
  res_lt_of_ok (wApproxOf_ok m aHat z c t1d2 7 hA (by decide) hz hc ht)

/-- the signer's commitment (step 12) and key generation's `A s1` (step 5): same statement -/
theorem commitment_pipeline_never_overflows (m : Mode) (aHat : List (List Poly)) (y : List Poly)
    (hA : ∀ row ∈ aHat, row.length ≤ 7 ∧ ∀ p ∈ row, ∀ x ∈ p, 0 ≤ x ∧ x ≤ 8380416)
    (hy : ∀ w ∈ y, ∀ x ∈ w, -524288 ≤ x ∧ x ≤ 524288) :
    ∃ r, (do let yh ← ntt m y; let ay ← matVecMul m aHat yh; invNtt m ay) = .ok r ∧ ∀ w ∈ r, ∀ x ∈ w, 0 ≤ x ∧ x < Q :=
  res_lt_of_ok (commitment_ok m aHat y 7 hA (by decide) hy)

/-- **F3, machine-checked**: the pinned-tree inverse transform overflows i32 in the checked build ... -/
theorem legacy_inv_ntt_overflows :
    (Legacy.invNttPoly .checked (List.replicate 256 8388608)).toOption = none := by
  -- on a constant block the butterflies double the constant per layer (`invRec_const`); with no reduction on copy-in layer 7 holds
  -- `2^30` in both halves, and their sum does not fit `i32`
  have hl : invRec .checked 7 3 (List.replicate 128 8388608) = .ok (1073741824 :: List.replicate 127 0) := by
    simpa only [Nat.reducePow, Int.reducePow, Int.reduceMul, Nat.reduceSub] using invRec_const .checked 7 3 8388608 (by decide) (by decide) (by decide)
  have hh : invRec .checked 7 2 (List.replicate 128 8388608) = .ok (1073741824 :: List.replicate 127 0) := by
    simpa only [Nat.reducePow, Int.reducePow, Int.reduceMul, Nat.reduceSub] using invRec_const .checked 7 2 8388608 (by decide) (by decide) (by decide)
  obtain ⟨hz, z0, z1⟩ := zeta_eq "ntt.rs:inv_ntt:ZETA_TABLE_MONT[m]" 1 (by decide)
  have h0 : (List.replicate 256 (8388608 : Int)).mapM (fun x => (pure x : M Int)) = .ok (List.replicate 256 8388608) :=
    mapM_eq_self _ _ (fun a _ => rfl)
  have ov : arith .i32 .checked "ntt.rs:inv_ntt:t+w[j+len]" (1073741824 + 1073741824) =
      .error (.overflow "ntt.rs:inv_ntt:t+w[j+len]") := rfl
  rw [Legacy.invNttPoly, invNttPolyWith, h0, ok_bind, invRec]
  simp only [List.length_replicate, List.take_replicate, List.drop_replicate, show (256 / 2 : Nat) = 128 by decide,
    show min 128 256 = 128 by decide, show 256 - 128 = 128 by decide, hl, hh, hz, ok_bind, arith_i32 _ _ (-zv 1) (by omega) (by omega),
    zipWithM, ov, error_bind]
  rfl

/-- ... while the repaired one answers (and the answer is the exact inverse transform of the constant vector) -/
theorem repaired_inv_ntt_answers :
    ((invNttPoly .checked (List.replicate 256 8388608)).toOption.map (fun w => w.take 2)) = some [8191, 0] := by
  -- copy-in reduces the constant to 8191; the butterflies give `256 * 8191` and zeros; the final scaling sends them to 8191 and 0
  have e : K.pr32 8388608 = 8191 := by decide
  have h0 : (List.replicate 256 (8388608 : Int)).mapM (partial_reduce32 .checked) = .ok (List.replicate 256 8191) := by
    rw [mapM_pure _ K.pr32 _ (fun a ha => by rw [List.eq_of_mem_replicate ha]; exact K.partial_reduce32_eq _ _ (by decide) (by decide)),
      List.map_replicate, e]
  have h1 : invRec .checked 8 1 (List.replicate 256 8191) = .ok (2096896 :: List.replicate 255 0) := by
    simpa only [Nat.reducePow, Int.reducePow, Int.reduceMul, Nat.reduceSub] using invRec_const .checked 8 1 8191 (by decide) (by decide) (by decide)
  have h2 := mapM_pure _ (fun x => K.montv (16382 * x) % 8380417) (2096896 :: List.replicate 255 0)
    (fun a ha => (fmont_eq .checked a (by
      rcases List.mem_cons.mp ha with rfl | ha
      · decide
      · rw [List.eq_of_mem_replicate ha]; decide)).1)
  rw [invNttPoly, invNttPolyWith, h0, ok_bind, h1, ok_bind, h2]
  decide

/-- the generated zeta table consists of canonical residues -/
theorem zeta_table_canonical (k : Nat) (hk : k < 256) : ∃ z, zetaArr[k]? = some z ∧ 0 ≤ z ∧ z < Q :=
  zeta_range k hk

end Fips204.Props.C18
