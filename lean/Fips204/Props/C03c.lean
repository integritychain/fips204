import Fips204.Lemmas.Samplers
/-!
# C03 (continued) — the samplers and decoders the signer runs are the algorithms of the standard **as written**

`signing_is_algorithm_7` (C03b) equates `sign_internal` with `signSpec`: Algorithm 7 written with exact arithmetic over the model's own
transcriptions of the byte-level functions and samplers.  Each of those is the algorithm of `Spec/*` (a transcription of FIPS 204 that
mentions nothing of the crate), for all inputs and both build modes:

* `expand_mask_is_ExpandMask` — Algorithm 34, for every 64-byte seed and every counter value the 16-bit counter can hold without
  wrapping; uses one property of the XOF: asking SHAKE256 for fewer bytes gives a prefix (`OraclePrefix`; the crate squeezes 640 bytes and
  unpacks the first `32 c`, the standard asks for `32 c`);
* `sample_in_ball_is_SampleInBall`, `expand_a_is_ExpandA` (C02c), `sk_decode_is_skDecode_with_the_range_check` (C10c),
  `w1_encode_is_w1Encode` (C02c), `bit_pack_is_BitPack`, `hint_bit_pack_is_HintBitPack`, `sig_encode_is_sigEncode` (C08c).

The attempt, the rejection loop and Algorithm 7 as a whole against `Spec.signInternal`: `sign_internal_is_Sign_internal_as_written` (C03d);
`c * s` is the negacyclic product (C18).
-/
namespace Fips204.Props.C03
open Fips204 Fips204.Gen Fips204.Impl

theorem expand_mask_is_ExpandMask (m : Mode) (O : Oracles) (hO : OracleOk O) (hP : OraclePrefix O) (p : ParamSet) (blz : Nat) (cfg : SigCfg p blz)
    (rho : List Nat) (mu : Nat) (hmu : mu + p.l ≤ 65536) (hl : p.l ≤ 65535) :
    expandMask m O p rho (mu : Int) = .ok (Spec.expandMask O.h blz p.gamma1 p.l rho mu) :=
  expandMask_is_algorithm_34 m O hO hP p blz cfg rho mu hmu hl

/-- the three parameter sets meet the hypotheses (18 / 20 bits per coefficient of the mask) -/
example : SigCfg ml_dsa_44 18 ∧ SigCfg ml_dsa_65 20 ∧ SigCfg ml_dsa_87 20 := ⟨sigCfg_44, sigCfg_65, sigCfg_87⟩

end Fips204.Props.C03
