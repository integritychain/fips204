import Fips204.Props.C10b
import Fips204.Props.C13d
/-!
# C09 (continued) — a generated key that is serialised and deserialised is the same struct

`generated_keys_round_trip_to_the_same_structs`: for each parameter set and every seed, whenever key generation returns
(it never panics; the model's only other outcome is `Fault.fuel`), both keys serialise (no panic, exactly `PK_LEN` /
`SK_LEN` bytes) and deserialising those bytes returns **the same structs** - every field, every coefficient.  Since the
signing and verification functions are functions of the struct, the round-tripped keys produce the same signatures for
the same randomness and make the same verification decision on every input: the third sentence of the property.

Proof (`Lemmas/Keys`): key generation's result is characterised by the vectors it sampled and rounded (`GenOk`);
`into_bytes` recovers those vectors exactly (`unMontCentered ∘ nttMont = id`, the verifier-precompute round trip) and
encodes them; `pk_decode ∘ pk_encode = id` and `sk_decode ∘ sk_encode = id` (bit codec bijection, C08); re-expanding
the decoded vectors recomputes the same NTT-domain fields, and `tr` is the hash of the same bytes.
-/
namespace Fips204.Props.C09
open Fips204 Fips204.Gen Fips204.Impl

theorem generated_keys_round_trip_to_the_same_structs (m : Mode) (O : Oracles) (hO : OracleOk O) (p : ParamSet)
    (hp : p ∈ [ml_dsa_44, ml_dsa_65, ml_dsa_87]) (xi : List Nat) :
    NoPanic (keygenFromSeed m O p xi) (fun kp => ∃ pkb skb,
      pkIntoBytes m p kp.1 = .ok pkb ∧ pkb.length = p.pkLen ∧ expandPublic m O p pkb = .ok (some kp.1) ∧
      skIntoBytes m p kp.2 = .ok skb ∧ skb.length = p.skLen ∧ expandPrivate m p skb = .ok (some kp.2)) := by
  obtain ⟨bl, he, hbl, hcfg⟩ := Fips204.Props.C10.sk_config m p hp
  have hpcfg := pkLen_of_mem p hp
  exact (Fips204.Props.C13.keygen_never_panics m O hO p hp xi []).1.mono
    (fun kp hg => gen_roundtrip_struct m O p he bl hbl hcfg hpcfg kp hg)

end Fips204.Props.C09
