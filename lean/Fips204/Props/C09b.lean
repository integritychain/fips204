import Fips204.Lemmas.Keys
import Fips204.Props.C10b
/-!
# C09 (continued) — key bytes round-trip exactly, for every byte string

* `public_key_bytes_round_trip`: for each parameter set, **every** byte string of public-key length deserialises, and
  serialising the resulting struct returns the same bytes.
* `private_key_bytes_round_trip`: every byte string of private-key length that deserialisation accepts is returned,
  byte for byte, by serialising the resulting struct.

Both go through the NTT-domain representation the structs hold.  The proofs (`Lemmas/NttAlg`, `NttRound`,
`Keys`): the forward and inverse butterflies are congruent modulo q to exact-integer specifications (inside the
overflow envelopes of C18); the inverse specification undoes the forward one up to `2^d` because each forward
multiplier times the negated table entry the inverse walk pairs it with is 1 modulo q (`pair_cg`: exponent arithmetic on the
closed form of the generated table, `zetaTable_eq`, with `1753^256 = -1`) and `F * 2^-32 * 2^8 ≡ 1`; Montgomery factors cancel; the final canonical representative is
*equal* to the original coefficient because that is small (`|s| ≤ eta`, `|t0| ≤ 2^12`, `t1 * 2^13 < q`); and the byte
codecs are mutually inverse (C08).
-/
namespace Fips204.Props.C09
open Fips204 Fips204.Gen Fips204.Impl

theorem public_key_bytes_round_trip (m : Mode) (O : Oracles) (p : ParamSet) (hp : p ∈ [ml_dsa_44, ml_dsa_65, ml_dsa_87])
    (pkb : List Nat) (hb : ∀ x ∈ pkb, x < 256) (hlen : pkb.length = p.pkLen) :
    ∃ pk, expandPublic m O p pkb = .ok (some pk) ∧ pkIntoBytes m p pk = .ok pkb := by
  have hcfg := pkLen_of_mem p hp
  exact pkIntoBytes_expandPublic m O p pkb hb (by rw [hlen, hcfg]) hcfg

theorem private_key_bytes_round_trip (m : Mode) (p : ParamSet) (hp : p ∈ [ml_dsa_44, ml_dsa_65, ml_dsa_87])
    (skb : List Nat) (hb : ∀ x ∈ skb, x < 256) (hlen : skb.length = p.skLen) (sk : PrivateKey)
    (h : expandPrivate m p skb = .ok (some sk)) : skIntoBytes m p sk = .ok skb := by
  obtain ⟨bl, he, hbl, hcfg⟩ := Fips204.Props.C10.sk_config m p hp
  exact skIntoBytes_expandPrivate m p skb hb he bl hbl (by rw [hlen, hcfg]) hlen.symm sk h

end Fips204.Props.C09
