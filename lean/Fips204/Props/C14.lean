import Fips204.Gen.Leaks
import Fips204.Impl.MlDsa
import Fips204.Lemmas.KernelsRound
import Fips204.Lemmas.Monad
/-!
# C14 — secret-independent execution in constant-time test mode

What a Lean model of the *source* can carry (partial, named as such): (1) over the inventory of control
constructs regenerated from every function in the constant-time scope (`Gen.leakSites`: every `if`, `while`,
`match`, early-exit iterator adaptor, `?`, `continue/break`, and every index expression `x[e]` and every division or
remainder whose `e` / divisor mentions an identifier that is not public in that function: a table lookup on secret data or a variable-time
division by it; each with the identifiers of its guard that are not public in that function), every construct whose guard mentions secret data is one of the listed exceptions (`allowList`, 23 entries), each
either neutralised by `CTEST` or argued constant on success; a new secret-dependent branch or early exit in any
scope function changes the inventory and falsifies the theorem.  (2) the `CTEST` neutralisations really make the
loop trip counts input-independent in the model: the three-byte and half-byte samplers never reject, and an attempt
of the signing loop never restarts.  What `rustc`/LLVM turn `.max()`, `bool as i32` or `if x > Q/2` into cannot be
exhibited by the model; that is observed: exact edge and load/store-address traces of the optimised build.
-/
namespace Fips204.Props.C14
open Fips204 Fips204.Gen Fips204.Impl Fips204.K

/-- the exceptions: (function, kind, guard as written) -/
def allowList : List (String × String × String) := [
  -- neutralised by CTEST (rejection on public, hash-derived data; see the three theorems below)
  ("coeff_from_three_bytes", "if", "z < Q"),
  ("coeff_from_half_byte", "if", "(eta == 2) && (b < 15)"),
  ("coeff_from_half_byte", "if", "(eta == 4) && (b < 9)"),
  ("hint_bit_pack", "if", "CTEST || (h[i].0[j] != 0)"),
  ("sample_in_ball", "while", "usize::from(j[0]) > i"),
  ("rej_ntt_poly", "if", "let Ok(res) = a_hat_j"),
  ("rej_ntt_poly", "while", "j < 256"),
  ("rej_bounded_poly", "if", "let Ok(z0) = z0"),
  ("rej_bounded_poly", "if", "let Ok(z1) = z1"),
  ("rej_bounded_poly", "if", "j < 256"),
  ("rej_bounded_poly", "while", "j < 256"),
  ("sign_internal", "if", "!CTEST && ((z_norm >= (gamma1 - beta)) || (r0_norm >= (gamma2 - beta)))"),
  ("sign_internal", "if", "!CTEST && ((infinity_norm(&c_t_0) >= gamma2) || (h.iter().map(|h_i| h_i.0.iter()"),
  -- early-exit adaptors: `.all()` is constant on success (and dead under CTEST), `.max()` scans every element
  ("is_in_range", "early-exit", ".all()"),
  ("infinity_norm", "early-exit", ".max()"),
  ("sign_internal", "loop-exit", "continue"),
  ("sign_internal", "loop-exit", "break"),
  ("hint_bit_pack", "loop-exit", "continue"),
  ("key_gen", "try", "?;"),
  -- the two `?` of the bounded rejection loop (fix 322a92d): they sit inside the `!CTEST && ..` rejection branches, dead under CTEST
  ("sign_internal", "try", "?;"),
  -- memory addresses computed from non-public identifiers (kind `index`) and divisions by them (kind `divmod`, none at present):
  -- the challenge positions come from the public commitment hash; `j` counts accepted candidates of public, hash-derived streams and
  -- advances on every candidate under CTEST (the two neutralisations above)
  ("sample_in_ball", "index", "usize::from(j[0])"),
  ("rej_ntt_poly", "index", "j"),
  ("rej_bounded_poly", "index", "j")]

def sensitive (s : LeakSite) : Bool := !s.secretVars.isEmpty || s.kind == "early-exit" || s.kind == "loop-exit" || s.kind == "try"

/-- every control construct in the constant-time scope that could depend on secret data is a listed exception -/
theorem secret_dependent_constructs_are_listed :
    leakSites.all (fun s => !sensitive s || allowList.contains (s.func, s.kind, s.guard)) = true := by decide +kernel

/-- and the list has no stale entry (each exception still exists in the source) -/
theorem allow_list_is_tight :
    allowList.all (fun a => leakSites.any (fun s => (s.func, s.kind, s.guard) == a)) = true := by decide +kernel

/-- CTEST neutralisation 1: the three-byte sampler never rejects (so `rej_ntt_poly` reads exactly 256 x 3 bytes) -/
theorem ctest_three_bytes_never_rejects (m : Mode) (b0 b1 b2 : Int) (h0 : 0 ≤ b0 ∧ b0 ≤ 255) (h1 : 0 ≤ b1 ∧ b1 ≤ 255)
    (h2 : 0 ≤ b2 ∧ b2 ≤ 255) : ∃ z, coeff_from_three_bytes m true b0 b1 b2 = .ok (some z) :=
  ⟨_, coeff3_ctest_some m b0 b1 b2 h0 h1 h2⟩

/-- CTEST neutralisation 2: the half-byte sampler never rejects, for both eta and every nibble -/
theorem ctest_half_byte_never_rejects (m : Mode) (eta b : Int) (he : eta = 2 ∨ eta = 4) (hb : 0 ≤ b ∧ b ≤ 15) :
    ∃ z, coeff_from_half_byte m true eta b = .ok (some z) := by
  rw [coeffhalf_ctest_eq m true eta b he hb]
  unfold Spec.coeffFromHalfByte
  simp only [if_true]
  rcases he with rfl | rfl
  · exact ⟨_, by rw [if_pos ⟨rfl, by omega⟩]⟩
  · exact ⟨_, by rw [if_neg (by omega), if_pos ⟨rfl, by omega⟩]⟩

/-- CTEST neutralisation 3: in test mode an attempt of the signing loop never restarts (one pass, no `continue`) -/
theorem ctest_attempt_never_rejects (m : Mode) (O : Oracles) (p : ParamSet) (sk : PrivateKey) (aHat : List (List Poly))
    (mu rhoPP : List Nat) (kappa : Int) (r : Option (List Nat × List Poly × List Poly))
    (h : signAttempt m O true p sk aHat mu rhoPP kappa = .ok r) : r.isSome = true := by
  -- with `ctest = true` both `if .. then pure none` guards are false and the last `if` returns `some ..`
  revert r
  simp only [signAttempt, bind_ok_imp, pure_eq_ok, Bool.not_true, Bool.false_and, Bool.false_eq_true, if_false, if_true, forall_eq',
    Option.isSome_some, implies_true]

/-- in constant-time test mode the signing loop always returns after exactly one pass, whatever the key, the message and the
    random value are: the number of iterations (the one secret-dependent quantity of Algorithm 7's control flow) is constant -/
theorem ctest_sign_is_single_pass (m : Mode) (O : Oracles) (p : ParamSet) (fuel : Nat) (sk : PrivateKey)
    (msg ctx oid phm rnd : List Nat) (nist : Bool) (out : SignOut)
    (h : signInternal m O true p fuel sk msg ctx oid phm rnd nist = .ok out) : out.iters = 1 := by
  simp only [signInternal, bind_eq_ok, pure_eq_ok, Prod.exists] at h
  obtain ⟨aHat, -, cT, z, hh, it, hl, _, -, _, -, rfl⟩ := h
  show it = 1
  cases fuel with
  | zero => cases hl
  | succ fuel =>
    simp only [signLoop, bind_eq_ok] at hl
    obtain ⟨a, ha, hl⟩ := hl
    have hs := ctest_attempt_never_rejects m O p sk aHat _ _ 0 a ha
    cases a with
    | none => cases hs
    | some t =>
      simp only [pure_eq_ok, Prod.mk.injEq] at hl
      omega

end Fips204.Props.C14
