import Fips204.Lemmas.OracleReal
import Fips204.Props.C01c
import Fips204.Props.C02c
import Fips204.Props.C03d
import Fips204.Props.C09c
/-!
# C01 (continued) — correctness of ML-DSA **as the standard writes it**

`sign_then_verify` (C01c) is a statement about the model of the crate.  With the three literal-specification theorems
(`keygen_is_algorithm_6_as_written`, `sign_internal_is_Sign_internal_as_written`, `verification_is_fips_204_algorithm_8_as_written`) it
transfers to `Spec/*`, a transcription of FIPS 204 that mentions nothing of the crate:

* `fips_204_signatures_verify_as_written` — for each of the three parameter sets of Table 1, every hash oracle pair with byte outputs of the
  requested length (and SHAKE's prefix property), every seed `xi`, every formatted message `M'`, every `rnd` and every attempt budget inside the
  16-bit counter: if `Spec.keyGenInternal xi` returns `(pk, sk)` and `Spec.signInternal` on `Spec.skDecode sk` returns `sigma`, then
  `Spec.verifyInternal pk M' sigma` returns `true`.

So the crate's round trip is not an accident of the implementation: it is the standard's own correctness, carried through the crate.  (`none`
= the finite XOF prefix the transcription reads ran out; with `fuelScale` large this needs more than `1680 * fuelScale` rejected bytes.)
-/
namespace Fips204.Props.C01
open Fips204 Fips204.Gen Fips204.Impl

theorem spec_pack_bytes (c : Nat) (f : Int → Nat) (w : List Int) :
    ∀ x ∈ Spec.bitsToBytes (32 * c) ((w.map (fun wi => Spec.integerToBits (f wi) c)).flatten), x < 256 :=
  spec_pack_lt c f w

theorem spec_section_bytes (g : List Int → List Nat) (hg : ∀ w, ∀ x ∈ g w, x < 256) (v : List (List Int)) :
    ∀ x ∈ (v.map g).flatten, x < 256 :=
  section_lt g hg v

/-- the key byte strings of Algorithm 6 consist of bytes -/
theorem spec_keygen_bytes (P : Spec.Params) (O : Oracles) (hO : OracleOk O) (nG nH : Nat) (xi pk sk : List Nat)
    (h : Spec.keyGenInternal P O.h O.g nG nH xi = some (pk, sk)) : (∀ x ∈ pk, x < 256) ∧ (∀ x ∈ sk, x < 256) := by
  unfold Spec.keyGenInternal at h
  simp only [] at h
  split at h
  · cases h
  · split at h
    · cases h
    · simp only [Option.some.injEq, Prod.mk.injEq] at h
      obtain ⟨h1, h2⟩ := h
      have hH : ∀ y n, ∀ x ∈ O.h y n, x < 256 := hO.hbyte
      have hrho : ∀ x ∈ (O.h (xi ++ [P.k % 256, P.l % 256]) 128).take 32, x < 256 := fun x hx => hH _ _ x (List.mem_of_mem_take hx)
      have hkey : ∀ x ∈ ((O.h (xi ++ [P.k % 256, P.l % 256]) 128).drop 96).take 32, x < 256 :=
        fun x hx => hH _ _ x (List.mem_of_mem_drop (List.mem_of_mem_take hx))
      subst h1 h2
      exact ⟨spec_pkEncode_lt hrho, spec_skEncode_lt hrho hkey (hH _ _)⟩

/-- a signature `sign_internal` returns under a generated key has signature length and consists of bytes -/
theorem signature_wf (m : Mode) (O : Oracles) (hO : OracleOk O) (p : ParamSet) (hp : p ∈ [ml_dsa_44, ml_dsa_65, ml_dsa_87])
    (fuel : Nat) (hfuel : fuel * p.l ≤ 65535) (xi : List Nat) (kp : PublicKey × PrivateKey)
    (hkg : keygenFromSeed m O p xi = .ok kp) (msg ctx oid phm rnd : List Nat) (nist : Bool) (out : SignOut)
    (hs : signInternal m O CTEST_default p fuel kp.2 msg ctx oid phm rnd nist = .ok out) :
    out.sig.length = p.sigLen ∧ ∀ b ∈ out.sig, b < 256 := by
  obtain ⟨blz, cfg, hk8, _⟩ := C13.signCfg_of_mem p hp
  obtain ⟨_, he, _, _⟩ := C10.sk_config m p hp
  have hgen : GenOk m O p kp := (keyGenInternal_np m O hO p he cfg.l7 (pkLen_of_mem p hp) xi).ok_elim hkg
  obtain ⟨_, _, _, _, _, _, _, _, _, _, _, _, sl, sb⟩ := genOk_sign m O hO p blz cfg hk8 he fuel hfuel kp hgen msg ctx oid phm rnd nist out hs
  exact ⟨sl, sb⟩

theorem fips_204_signatures_verify_as_written (O : Oracles) (hO : OracleOk O) (hP : OraclePrefix O)
    (p : ParamSet) (hp : p ∈ [ml_dsa_44, ml_dsa_65, ml_dsa_87]) (attempts : Nat) (hatt : attempts * p.l ≤ 65535)
    (xi Mp rnd pk sk sigma : List Nat)
    (hkg : Spec.keyGenInternal (specParams p) O.h O.g (1680 * O.fuelScale) (1088 * O.fuelScale) xi = some (pk, sk))
    (hsg : (let d := Spec.skDecode (Spec.bitlen (2 * p.eta)) p.eta p.k p.l sk
            Spec.signInternal (specParams p) O.h O.g (1680 * O.fuelScale) (8 + 1360 * O.fuelScale) attempts
              d.1 d.2.1 d.2.2.1 d.2.2.2.1 d.2.2.2.2.1 d.2.2.2.2.2 Mp rnd) = some sigma) :
    Spec.verifyInternal (specParams p) O.h O.g (1680 * O.fuelScale) (8 + 1360 * O.fuelScale) pk Mp sigma = some true := by
  obtain ⟨hpkb, hskb⟩ := spec_keygen_bytes _ O hO _ _ xi pk sk hkg
  -- key generation: the model returns structs whose serialisations are (pk, sk)
  obtain ⟨kp, hkp, hpkI, hskI⟩ := keygen_of_algorithm_6 .release O hO p hp xi pk sk hkg
  obtain ⟨pkb', skb', r1, r2, r3, r4, r5, r6⟩ :=
    (C09.generated_keys_round_trip_to_the_same_structs .release O hO p hp xi).ok_elim hkp
  obtain rfl := ok_inj (hpkI.symm.trans r1)
  obtain rfl := ok_inj (hskI.symm.trans r4)
  -- signing
  have h7 := C03.sign_internal_is_Sign_internal_as_written .release O hO hP p hp attempts hatt sk hskb r5 kp.2 r6 Mp [] [] [] rnd true
  simp only [] at h7 hsg
  have hf : Spec.formatted true Mp [] [] [] = Mp := rfl
  rw [hf, hsg] at h7
  obtain ⟨it, h7⟩ := h7
  -- the model's round trip
  have hv8 := sign_then_verify .release O hO p hp attempts hatt xi kp hkp Mp [] [] [] rnd true _ h7
  -- the signature is a byte string of signature length
  have hwf : sigma.length = p.sigLen ∧ ∀ b ∈ sigma, b < 256 :=
    signature_wf .release O hO p hp attempts hatt xi kp hkp Mp [] [] [] rnd true _ h7
  -- verification
  obtain ⟨pk', hpk', h8⟩ := C02.verification_is_fips_204_algorithm_8_as_written .release O hO p hp pk Mp sigma [] [] [] true hpkb r2 hwf.2 hwf.1
  obtain rfl := Option.some.inj (ok_inj (r3.symm.trans hpk'))
  exact h8.some_of_ok hv8

/-- **Algorithms 1-3 as written**: what `ML-DSA.Sign` returns under a key pair of `ML-DSA.KeyGen_internal`, `ML-DSA.Verify` accepts - for every
    context (a context longer than 255 bytes makes `Sign` return `⊥`, so there is nothing to verify) -/
theorem ml_dsa_sign_then_verify_as_written (O : Oracles) (hO : OracleOk O) (hP : OraclePrefix O)
    (p : ParamSet) (hp : p ∈ [ml_dsa_44, ml_dsa_65, ml_dsa_87]) (attempts : Nat) (hatt : attempts * p.l ≤ 65535)
    (xi M ctx rnd pk sk sigma : List Nat)
    (hkg : Spec.keyGenInternal (specParams p) O.h O.g (1680 * O.fuelScale) (1088 * O.fuelScale) xi = some (pk, sk))
    (hsg : Spec.sign (specParams p) O.h O.g (1680 * O.fuelScale) (8 + 1360 * O.fuelScale) attempts sk M ctx (some rnd) = some (some sigma)) :
    Spec.verify (specParams p) O.h O.g (1680 * O.fuelScale) (8 + 1360 * O.fuelScale) pk M sigma ctx = some true := by
  unfold Spec.sign at hsg
  unfold Spec.verify
  exact spec_guarded_round_trip hsg fun hs' => fips_204_signatures_verify_as_written O hO hP p hp attempts hatt xi _ rnd pk sk sigma hkg hs'

/-- **Algorithms 4-5 as written**: the same for `HashML-DSA.Sign` / `HashML-DSA.Verify` with each of the three pre-hash functions -/
theorem hash_ml_dsa_sign_then_verify_as_written (O : Oracles) (hO : OracleOk O) (hP : OraclePrefix O)
    (p : ParamSet) (hp : p ∈ [ml_dsa_44, ml_dsa_65, ml_dsa_87]) (attempts : Nat) (hatt : attempts * p.l ≤ 65535)
    (xi M ctx rnd pk sk sigma : List Nat) (ph : Spec.PreHash)
    (hkg : Spec.keyGenInternal (specParams p) O.h O.g (1680 * O.fuelScale) (1088 * O.fuelScale) xi = some (pk, sk))
    (hsg : Spec.hashSign (specParams p) O.h O.g O.sha256 O.sha512 (1680 * O.fuelScale) (8 + 1360 * O.fuelScale) attempts sk M ctx ph (some rnd) = some (some sigma)) :
    Spec.hashVerify (specParams p) O.h O.g O.sha256 O.sha512 (1680 * O.fuelScale) (8 + 1360 * O.fuelScale) pk M sigma ctx ph = some true := by
  unfold Spec.hashSign at hsg
  unfold Spec.hashVerify
  exact spec_guarded_round_trip hsg fun hs' => fips_204_signatures_verify_as_written O hO hP p hp attempts hatt xi _ rnd pk sk sigma hkg hs'

/-- the same with **no hypothesis on the hash functions**: for the SHAKE the model driver executes (`Exec.realOracles`; `OracleOk` and
    `OraclePrefix` are proved of it in `Lemmas/OracleReal`).  In particular the oracle hypotheses of all the theorems are satisfiable. -/
theorem fips_204_signatures_verify_for_the_executed_shake (scale : Nat)
    (p : ParamSet) (hp : p ∈ [ml_dsa_44, ml_dsa_65, ml_dsa_87]) (attempts : Nat) (hatt : attempts * p.l ≤ 65535)
    (xi Mp rnd pk sk sigma : List Nat)
    (hkg : Spec.keyGenInternal (specParams p) Exec.shake256 Exec.shake128 (1680 * scale) (1088 * scale) xi = some (pk, sk))
    (hsg : (let d := Spec.skDecode (Spec.bitlen (2 * p.eta)) p.eta p.k p.l sk
            Spec.signInternal (specParams p) Exec.shake256 Exec.shake128 (1680 * scale) (8 + 1360 * scale) attempts
              d.1 d.2.1 d.2.2.1 d.2.2.2.1 d.2.2.2.2.1 d.2.2.2.2.2 Mp rnd) = some sigma) :
    Spec.verifyInternal (specParams p) Exec.shake256 Exec.shake128 (1680 * scale) (8 + 1360 * scale) pk Mp sigma = some true :=
  fips_204_signatures_verify_as_written (Exec.realOracles scale) (driverOracles_ok scale) (driverOracles_prefix scale) p hp attempts hatt
    xi Mp rnd pk sk sigma hkg hsg

/-- Algorithms 4-5 round trip with no hypothesis on the hash functions: SHAKE, SHA-256 and SHA-512 as the driver executes them -/
theorem hash_ml_dsa_sign_then_verify_for_the_executed_hashes (scale : Nat)
    (p : ParamSet) (hp : p ∈ [ml_dsa_44, ml_dsa_65, ml_dsa_87]) (attempts : Nat) (hatt : attempts * p.l ≤ 65535)
    (xi M ctx rnd pk sk sigma : List Nat) (ph : Spec.PreHash)
    (hkg : Spec.keyGenInternal (specParams p) Exec.shake256 Exec.shake128 (1680 * scale) (1088 * scale) xi = some (pk, sk))
    (hsg : Spec.hashSign (specParams p) Exec.shake256 Exec.shake128 Exec.sha256 Exec.sha512 (1680 * scale) (8 + 1360 * scale) attempts sk M ctx ph (some rnd) = some (some sigma)) :
    Spec.hashVerify (specParams p) Exec.shake256 Exec.shake128 Exec.sha256 Exec.sha512 (1680 * scale) (8 + 1360 * scale) pk M sigma ctx ph = some true :=
  hash_ml_dsa_sign_then_verify_as_written (Exec.realOracles scale) (driverOracles_ok scale) (driverOracles_prefix scale) p hp attempts hatt
    xi M ctx rnd pk sk sigma ph hkg hsg

end Fips204.Props.C01
