import Fips204.Props.C03d
import Fips204.Props.C12
/-!
# C03 (continued) — the two signing entry points are FIPS 204 Algorithms 2 and 4 **as the standard writes them**

`Spec.sign` / `Spec.hashSign` (`Spec/MlDsa.lean`) transcribe Algorithms 2 and 4 (hedged variant): `⊥` on a context longer than 255 bytes, `⊥` when
the random bit generator fails, otherwise `ML-DSA.Sign_internal(sk, M', rnd)` on the formatted message, with Algorithm 7 starting from `skDecode(sk)`.

* `sign_is_ML_DSA_Sign_as_written`, `hash_sign_is_HashML_DSA_Sign_as_written` — for each parameter set, every private-key byte string
  deserialisation accepts, every message, **every context of any length**, each pre-hash function, every generator whose first answer is 32 bytes
  `rnd` (whatever it would answer afterwards), in both build modes and within the 16-bit attempt counter: the entry point returns exactly the
  standard's signature (`Ok`, with one `try_fill_bytes(32)` call logged), or an error exactly when the standard returns `⊥`.
  A failing generator is C12 (`sign_reports_rng_failure`: `Err`, matching line 6-8 of Algorithm 2).
-/
namespace Fips204.Props.C03
open Fips204 Fips204.Gen Fips204.Impl

theorem sign_is_ML_DSA_Sign_as_written (m : Mode) (O : Oracles) (hO : OracleOk O) (hP : OraclePrefix O)
    (p : ParamSet) (hp : p ∈ [ml_dsa_44, ml_dsa_65, ml_dsa_87]) (fuel : Nat) (hfuel : fuel * p.l ≤ 65535)
    (skb : List Nat) (hb : ∀ x ∈ skb, x < 256) (hlen : skb.length = p.skLen)
    (sk : PrivateKey) (hsk : expandPrivate m p skb = .ok (some sk)) (msg ctx rnd : List Nat) (rest : List RngResp) (hr : rnd.length = 32) :
    AgreesApiSig (sign m O p fuel sk msg ctx (RngResp.ok rnd :: rest))
      (Spec.sign (specParams p) O.h O.g (1680 * O.fuelScale) (8 + 1360 * O.fuelScale) fuel skb msg ctx (some rnd)) := by
  unfold Spec.sign
  rw [sign_eq]
  refine ite_rel AgreesApiSig (fun _ => ⟨.ctx, [], rfl⟩) fun _ => ?_
  rw [drawn_eq rnd rest 32 hr (by decide)]
  have h7 := sign_internal_is_Sign_internal_as_written m O hO hP p hp fuel hfuel skb hb hlen sk hsk msg ctx [] [] rnd false
  simp only [] at h7
  rw [formatted_pure] at h7
  exact agreesApiSig_of _ _ h7

theorem hash_sign_is_HashML_DSA_Sign_as_written (m : Mode) (O : Oracles) (hO : OracleOk O) (hP : OraclePrefix O) (hW : Spec.WF O)
    (p : ParamSet) (hp : p ∈ [ml_dsa_44, ml_dsa_65, ml_dsa_87]) (fuel : Nat) (hfuel : fuel * p.l ≤ 65535)
    (skb : List Nat) (hb : ∀ x ∈ skb, x < 256) (hlen : skb.length = p.skLen)
    (sk : PrivateKey) (hsk : expandPrivate m p skb = .ok (some sk)) (msg ctx rnd : List Nat) (ph : Ph) (rest : List RngResp) (hr : rnd.length = 32) :
    AgreesApiSig (hashSign m O p fuel sk msg ctx ph (RngResp.ok rnd :: rest))
      (Spec.hashSign (specParams p) O.h O.g O.sha256 O.sha512 (1680 * O.fuelScale) (8 + 1360 * O.fuelScale) fuel skb msg ctx (specPh ph) (some rnd)) := by
  unfold Spec.hashSign
  rw [hashSign_eq]
  refine ite_rel AgreesApiSig (fun _ => ⟨.ctx, [], rfl⟩) fun _ => ?_
  rw [drawn_eq rnd rest 32 hr (by decide)]
  have h7 := sign_internal_is_Sign_internal_as_written m O hO hP p hp fuel hfuel skb hb hlen sk hsk msg ctx
    (hashMessage O msg ph).1 (hashMessage O msg ph).2 rnd false
  simp only [] at h7
  rw [hashMessage_is_oidAndDigest O hW] at h7 ⊢
  rw [formatted_hash _ _ _ _ (oid_nonempty O msg (specPh ph))] at h7
  exact agreesApiSig_of _ _ h7

/-- a failing generator (error before or after writing, empty answer, exhausted script) is the `NULL` of Algorithm 2 lines 5-8: an error, as the
    standard returns `⊥` - for every context length -/
theorem sign_with_failing_generator_is_bottom (m : Mode) (O : Oracles) (p : ParamSet) (fuel : Nat) (sk : PrivateKey) (skb msg ctx : List Nat)
    (script : List RngResp) (h : C12.Fails script) :
    AgreesApiSig (sign m O p fuel sk msg ctx script)
      (Spec.sign (specParams p) O.h O.g (1680 * O.fuelScale) (8 + 1360 * O.fuelScale) fuel skb msg ctx none) := by
  unfold Spec.sign
  rw [sign_eq]
  refine ite_rel AgreesApiSig (fun _ => ⟨.ctx, [], rfl⟩) fun _ => ⟨.rng, [.tryFill 32], ?_⟩
  rw [C12.drawn_fails script 32 h]

theorem hash_sign_with_failing_generator_is_bottom (m : Mode) (O : Oracles) (p : ParamSet) (fuel : Nat) (sk : PrivateKey) (skb msg ctx : List Nat)
    (ph : Ph) (script : List RngResp) (h : C12.Fails script) :
    AgreesApiSig (hashSign m O p fuel sk msg ctx ph script)
      (Spec.hashSign (specParams p) O.h O.g O.sha256 O.sha512 (1680 * O.fuelScale) (8 + 1360 * O.fuelScale) fuel skb msg ctx (specPh ph) none) := by
  unfold Spec.hashSign
  rw [hashSign_eq]
  refine ite_rel AgreesApiSig (fun _ => ⟨.ctx, [], rfl⟩) fun _ => ⟨.rng, [.tryFill 32], ?_⟩
  rw [C12.drawn_fails script 32 h]

/-- the standard's `⊥` cases (tests of the transcription, labelled as tests) -/
example (P : Spec.Params) (H G : List Nat → Nat → List Nat) (sk M ctx : List Nat) (r : Option (List Nat)) (h : ctx.length > 255) :
    Spec.sign P H G 0 0 0 sk M ctx r = some none := by unfold Spec.sign; rw [if_pos h]
example (P : Spec.Params) (H G : List Nat → Nat → List Nat) (sk M : List Nat) :
    Spec.sign P H G 0 0 0 sk M [] none = some none := rfl

end Fips204.Props.C03
