import Fips204.Lemmas.Decompose
import Fips204.Props.C06
/-!
# C05 — any single-bit change invalidates a signature (strong binding)

`C05_full` (every one-bit change of sig / M / ctx / pk is rejected) is not a theorem about any hash
function.  Proved parts, for all inputs and all oracles:
* a change of message, context or mode changes the hashed input `tr ‖ M'` (C06), so acceptance of both
  tuples is an explicit SHAKE256 (or pre-hash) collision;
* a changed hint bit always changes the reconstructed commitment coefficient: `UseHint(1, r) ≠ UseHint(0, r)`
  for every `r` and both parameter values - so a flip inside the hint section that still decodes changes `w1'`;
* strict hint decoding leaves no slack (see C08).
Flips inside `c~` and `z` are decided by exhaustive flip runs on the crate (exploration, labelled as such).
-/
namespace Fips204.Props.C05
open Fips204 Fips204.Gen

/-- a hint bit always matters: UseHint with h = 1 never equals UseHint with h = 0 -/
theorem useHint_flip (g r : Int) (hg : g = 95232 ∨ g = 261888) : Spec.useHint g 1 r ≠ Spec.useHint g 0 r :=
  Spec.useHint_flip (K.G2.rnd hg) (by rcases hg with rfl | rfl <;> decide) r

/-- the reconstructed commitment coefficient is always a valid `w1` symbol (what `w1Encode` packs) -/
theorem useHint_range (g h r : Int) (hg : g = 95232 ∨ g = 261888) :
    0 ≤ Spec.useHint g h r ∧ Spec.useHint g h r < (Q - 1) / (2 * g) :=
  (K.G2.rnd hg).useHint_range h r

/-- message / context / mode changes reach the hash: restated from C06 for this property -/
theorem changed_interpretation_changes_hash_input (O : Impl.Oracles) (tr : List Nat) (i j : C06.Interp) (hne : i ≠ j)
    (hnc : ¬ C06.PrehashCollision O i j) : tr ++ i.fmt O ≠ tr ++ j.fmt O := by
  intro h
  exact hnc (C06.different_interpretations_format_differently O i j hne (List.append_cancel_left h))

end Fips204.Props.C05
