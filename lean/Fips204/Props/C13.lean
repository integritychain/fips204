import Fips204.Props.C15
import Fips204.Props.C07
import Fips204.Props.C12
import Fips204.Props.C18
import Fips204.Props.C10
/-!
# C13 — no input can make the library panic

In `Mode.checked` (debug assertions and overflow checks on) a panic is a `Fault`.  Proved fault-free, for
**all** inputs: every scalar kernel on its documented domain (C15); the inverse NTT on every vector that fits
`partial_reduce32` (C18; the pinned tree faulted here: F3); all six external entry points on over-long
contexts (C07); key generation and both signers on every failing generator (C12); re-serialisation range
self-checks for every accepted private key (C10; pinned tree: F1); and public-key derivation does not read
`t0` (C11; pinned tree: F2); the verifier's and signer's lazy NTT pipelines on their whole input envelopes (C18).
The whole paths are in the companion files: verification on any public-key bytes and any signature bytes (`Props/C13b`),
signing on any accepted private key (`C13c`), key generation and public-key derivation (`C13d`), serialisation of both
keys (`C13e`).  They are also exercised on every run in the checked build with hostile inputs, and every panic there is
reported with the input.
-/
namespace Fips204.Props.C13
open Fips204 Fips204.Gen Fips204.Impl

/-- a result is not a panic -/
def NoFault {α} (r : M α) : Prop := ∃ v, r = .ok v

theorem kernels_no_fault (a : Int) (h1 : -2143289344 < a) (h2 : a < 2143289344) :
    NoFault (partial_reduce32 .checked a) ∧ NoFault (full_reduce32 .checked a) ∧ NoFault (center_mod .checked a) ∧
    (∀ g, g = 95232 ∨ g = 261888 → NoFault (decompose .checked g a) ∧ NoFault (use_hint .checked g 1 a)) := by
  refine ⟨?_, ⟨_, C15.full_reduce32_spec .checked a h1 h2⟩, ⟨_, C15.center_mod_spec .checked a h1 h2⟩, fun g hg => ⟨⟨_, C15.decompose_spec .checked g a hg h1 h2⟩, ⟨_, C15.use_hint_spec .checked g 1 a hg (Or.inr rfl) h1 h2⟩⟩⟩
  obtain ⟨r, hr, _⟩ := C15.partial_reduce32_spec .checked a h1 h2
  exact ⟨r, hr⟩

theorem mont_reduce_no_fault (a : Int) (h1 : -17996808479301632 ≤ a) (h2 : a ≤ 17996808470921215) :
    NoFault (mont_reduce .checked a) := by
  obtain ⟨r, hr, _⟩ := C15.mont_reduce_spec .checked a h1 h2
  exact ⟨r, hr⟩

theorem inv_ntt_no_fault (ws : List (List Int)) (hw : ∀ w ∈ ws, ∀ x ∈ w, -2143289343 ≤ x ∧ x ≤ 2143289343) :
    NoFault (invNtt .checked ws) := by
  obtain ⟨r, hr, _⟩ := C18.inv_ntt_never_overflows .checked ws hw
  exact ⟨r, hr⟩

/-- the verifier's whole NTT pipeline (Algorithm 8 step 9) on an adversary's response vector, and the signer's / key
    generator's commitment pipeline: no overflow, no failed assertion (from C18) -/
theorem ntt_pipelines_no_fault (aHat : List (List Poly)) (z : List Poly) (c : Poly) (t1d2 : List Poly)
    (hA : ∀ row ∈ aHat, row.length ≤ 7 ∧ ∀ p ∈ row, ∀ x ∈ p, 0 ≤ x ∧ x ≤ 8380416)
    (hz : ∀ w ∈ z, ∀ x ∈ w, -524288 ≤ x ∧ x ≤ 524288) (hc : ∀ x ∈ c, -1 ≤ x ∧ x ≤ 1)
    (ht : ∀ w ∈ t1d2, ∀ x ∈ w, -16760833 ≤ x ∧ x ≤ 16760833) :
    NoFault (wApproxOf .checked aHat z c t1d2) ∧
    NoFault (do let yh ← ntt .checked z; let ay ← matVecMul .checked aHat yh; invNtt .checked ay) := by
  obtain ⟨r, hr, _⟩ := C18.verify_pipeline_never_overflows .checked aHat z c t1d2 hA hz hc ht
  obtain ⟨r2, hr2, _⟩ := C18.commitment_pipeline_never_overflows .checked aHat z hA hz
  exact ⟨⟨r, hr⟩, ⟨r2, hr2⟩⟩

theorem long_context_no_fault (O : Oracles) (p : ParamSet) (fuel : Nat) (sk : PrivateKey) (pk : PublicKey)
    (msg sig ctx rnd : List Nat) (ph : Ph) (script : List RngResp) (h : ctx.length > 255) :
    NoFault (sign .checked O p fuel sk msg ctx script) ∧ NoFault (hashSign .checked O p fuel sk msg ctx ph script) ∧
    NoFault (internalSign .checked O p fuel sk msg ctx rnd) ∧ NoFault (verify .checked O p pk msg sig ctx) ∧
    NoFault (hashVerify .checked O p pk msg sig ctx ph) ∧ NoFault (internalVerify .checked O p pk msg sig ctx) :=
  ⟨⟨_, C07.sign_rejects_long_ctx _ O p fuel sk msg ctx script h⟩, ⟨_, C07.hashSign_rejects_long_ctx _ O p fuel sk msg ctx ph script h⟩,
   ⟨_, C07.internalSign_rejects_long_ctx _ O p fuel sk msg ctx rnd h⟩, ⟨_, C07.verify_rejects_long_ctx _ O p pk msg sig ctx h⟩,
   ⟨_, C07.hashVerify_rejects_long_ctx _ O p pk msg sig ctx ph h⟩, ⟨_, C07.internalVerify_rejects_long_ctx _ O p pk msg sig ctx h⟩⟩

theorem failing_rng_no_fault (O : Oracles) (p : ParamSet) (fuel : Nat) (sk : PrivateKey) (msg ctx : List Nat) (ph : Ph)
    (script : List RngResp) (hc : ctx.length ≤ 255) (h : C12.Fails script) :
    NoFault (keygenWithRng .checked O p script) ∧ NoFault (sign .checked O p fuel sk msg ctx script) ∧
    NoFault (hashSign .checked O p fuel sk msg ctx ph script) :=
  ⟨⟨_, C12.keygen_reports_rng_failure _ O p script h⟩, ⟨_, C12.sign_reports_rng_failure _ O p fuel sk msg ctx script hc h⟩,
   ⟨_, C12.hashSign_reports_rng_failure _ O p fuel sk msg ctx ph script hc h⟩⟩

/-- the three pinned-tree panics, each refuted on the frozen definitions and absent from the live model:
    F1 (accepted out-of-range field), F3 (inverse NTT overflow); F2's assertion no longer exists in `privateToPublicKey` -/
theorem pinned_tree_faults :
    ((Legacy.bitUnpack .checked (7 :: List.replicate 95 0) 2 2).toOption.bind id).map (fun w => w.head!) = some (-5) ∧
    (Legacy.invNttPoly .checked (List.replicate 256 8388608)).toOption = none :=
  ⟨C10.legacy_accepts_out_of_range, C18.legacy_inv_ntt_overflows⟩

end Fips204.Props.C13
