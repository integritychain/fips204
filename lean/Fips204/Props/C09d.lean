import Fips204.Lemmas.SpecRoundTrip
/-!
# C09 (continued) — the public-key codec of the standard, as transcribed, round-trips

Statements about `Spec/*` alone, proved there (`Lemmas/SpecRoundTrip`: a section of packed polynomials is re-packed to the bytes it was read
from and re-read as the polynomials it was packed from; an encoding is a header followed by sections):

* `pkEncode_after_pkDecode_as_written` — for each parameter set and every byte string of public-key length,
  `pkEncode(pkDecode(pk)) = pk` on `Spec/*` alone: every public-key string is the canonical encoding of what it decodes to (in particular no
  two strings decode to the same `(rho, t1)`);
* `pkDecode_after_pkEncode_as_written` — `pkDecode(pkEncode(rho, t1)) = (rho, t1)` for every 32-byte `rho` (of bytes) and every `t1` with `k`
  polynomials of 256 coefficients in `[0, 1023]`: with the previous item, Algorithms 22 / 23 are mutually inverse bijections;
* `skDecode_after_skEncode_as_written` — `skDecode(skEncode(rho, K, tr, s1, s2, t0))` returns the six components for byte strings `rho`, `K`, `tr` of
  32, 32, 64 bytes and vectors in range: with the next item, Algorithms 24 / 25 are mutually inverse on in-range keys;
* `skEncode_after_skDecode_as_written` — for each parameter set and every byte string of private-key length whose `s1`, `s2` sections decode into
  `[-eta, eta]` (the strings deserialisation accepts, C10c), `skEncode(skDecode(sk)) = sk` on `Spec/*` alone.
-/
namespace Fips204.Props.C09
open Fips204 Fips204.Gen Fips204.Impl

theorem pkEncode_after_pkDecode_as_written (p : ParamSet) (hp : p ∈ [ml_dsa_44, ml_dsa_65, ml_dsa_87])
    (pk : List Nat) (hb : ∀ x ∈ pk, x < 256) (hlen : pk.length = p.pkLen) :
    Spec.pkEncode (Spec.pkDecode p.k pk).1 (Spec.pkDecode p.k pk).2 = pk := by
  exact spec_pkEncode_pkDecode p.k pk hb ((hlen.trans (pkLen_of_mem p hp)).trans (pkLen_eq p.k))

/-- distinct public-key strings decode to distinct `(rho, t1)` under Algorithm 23 -/
theorem pkDecode_injective_as_written (p : ParamSet) (hp : p ∈ [ml_dsa_44, ml_dsa_65, ml_dsa_87])
    (pk pk' : List Nat) (hb : ∀ x ∈ pk, x < 256) (hlen : pk.length = p.pkLen) (hb' : ∀ x ∈ pk', x < 256) (hlen' : pk'.length = p.pkLen)
    (h : Spec.pkDecode p.k pk = Spec.pkDecode p.k pk') : pk = pk' := by
  rw [← pkEncode_after_pkDecode_as_written p hp pk hb hlen, ← pkEncode_after_pkDecode_as_written p hp pk' hb' hlen', h]

theorem skEncode_after_skDecode_as_written (p : ParamSet) (hp : p ∈ [ml_dsa_44, ml_dsa_65, ml_dsa_87])
    (sk : List Nat) (hb : ∀ x ∈ sk, x < 256) (hlen : sk.length = p.skLen)
    (hr : (Spec.allInRange p.eta p.eta (Spec.skDecode (Spec.bitlen (2 * p.eta)) p.eta p.k p.l sk).2.2.2.1 &&
           Spec.allInRange p.eta p.eta (Spec.skDecode (Spec.bitlen (2 * p.eta)) p.eta p.k p.l sk).2.2.2.2.1) = true) :
    (let d := Spec.skDecode (Spec.bitlen (2 * p.eta)) p.eta p.k p.l sk
     Spec.skEncode (Spec.bitlen (2 * p.eta)) p.eta d.1 d.2.1 d.2.2.1 d.2.2.2.1 d.2.2.2.2.1 d.2.2.2.2.2) = sk := by
  obtain ⟨_, bl, c⟩ := paramCfg_of_mem .release p hp
  rw [c.etaBitlen]
  exact spec_skEncode_skDecode bl p.eta p.k p.l sk hb (by rw [hlen, c.skLen, D_toNat, skLen_eq])

theorem pkDecode_after_pkEncode_as_written (p : ParamSet) (hp : p ∈ [ml_dsa_44, ml_dsa_65, ml_dsa_87])
    (rho : List Nat) (t1 : List Poly) (hr : rho.length = 32) (hrb : ∀ x ∈ rho, x < 256) (ht : VecIn p.k 0 1023 t1) :
    Spec.pkDecode p.k (Spec.pkEncode rho t1) = (rho, t1) :=
  spec_pkDecode_pkEncode p.k rho t1 hr ht

theorem spec_bitPack_bytes (c : Nat) (b : Int) (w : List Int) : ∀ x ∈ Spec.bitPack c b w, x < 256 :=
  spec_pack_lt c _ w

theorem spec_packs_bytes (c : Nat) (b : Int) (v : List (List Int)) : ∀ x ∈ (v.map (fun w => Spec.bitPack c b w)).flatten, x < 256 :=
  section_lt _ (spec_bitPack_bytes c b) v

theorem skDecode_after_skEncode_as_written (p : ParamSet) (hp : p ∈ [ml_dsa_44, ml_dsa_65, ml_dsa_87])
    (rho key tr : List Nat) (s1 s2 t0 : List Poly)
    (hr : rho.length = 32) (hk : key.length = 32) (ht : tr.length = 64)
    (hrb : ∀ x ∈ rho, x < 256) (hkb : ∀ x ∈ key, x < 256) (htb : ∀ x ∈ tr, x < 256)
    (h1 : VecIn p.l (-p.eta) p.eta s1) (h2 : VecIn p.k (-p.eta) p.eta s2) (h0 : VecIn p.k (-4095) 4096 t0) :
    Spec.skDecode (Spec.bitlen (2 * p.eta)) p.eta p.k p.l (Spec.skEncode (Spec.bitlen (2 * p.eta)) p.eta rho key tr s1 s2 t0) =
      (rho, key, tr, s1, s2, t0) := by
  obtain ⟨_, bl, c⟩ := paramCfg_of_mem .release p hp
  rw [c.etaBitlen]
  have he := c.eta
  have hpow : p.eta + p.eta < 2 ^ bl := by
    rw [← c.etaBitlen, ← Int.two_mul]
    exact lt_two_pow_bitlen _
  exact spec_skDecode_skEncode bl p.eta (by omega) hpow p.k p.l rho key tr s1 s2 t0 hr hk ht h1 h2 h0

end Fips204.Props.C09
