import Fips204.Lemmas.SpecEncode
/-!
# C08 (continued) — the coefficient codecs are the algorithms of the standard, as the standard writes them

`Spec/Codec.lean` transcribes FIPS 204 Algorithms 9-13 and 16-19 on explicit bit strings (`IntegerToBits`, `BitsToInteger`,
`BitsToBytes`, `BytesToBits`, `SimpleBitPack`, `BitPack`, `SimpleBitUnpack`, `BitUnpack`) and mentions nothing of the crate.
The crate never materialises a bit string: `bit_pack` / `bit_unpack` stream through a 32-bit accumulator.  The theorems below say
the two coincide, for every polynomial in range / every byte string of the right length, every `(a, b)` with `a + b < 2^bitlen`
(all eight pairs the crate uses), in both build modes:

* `bit_pack_is_BitPack`, `simple_bit_pack_is_SimpleBitPack` — the bytes returned are those of Algorithms 17 / 16;
* `bit_unpack_is_BitUnpack_then_range_test`, `simple_bit_unpack_is_SimpleBitUnpack_then_range_test` — the coefficients are those of
  Algorithms 19 / 18, followed by the range test `[-a, b]` that the standard leaves to the caller (`skDecode`, `sigDecode`) and the
  crate performs inside `bit_unpack`.

Proof: both sides are determined by one number, the little-endian value of the bit string (`Lemmas/SpecCodec`: regrouping of
digit blocks, `numF_flatten`; values of the standard's four bit-level functions), and fixed-length representations are unique.
For the packing layer, then, the byte-level functions that `verification_is_algorithm_8`, `signing_is_algorithm_7` and
`key_generation_is_algorithm_6` share with their specifications are the standard's algorithms, not only the model's transcription of them.
-/
namespace Fips204.Props.C08
open Fips204 Fips204.Gen Fips204.Impl

theorem bit_pack_is_BitPack (m : Mode) (w : Poly) (a b : Int) (bl : Nat) (ha : 0 < a ∧ a < 1048576) (hb : 1 ≤ b ∧ b < 1048576)
    (hbl : bitLen m (a + b) = .ok bl) (hbl2 : 1 ≤ bl ∧ bl ≤ 20) (hab : a + b < 2 ^ bl) (hw : ∀ c ∈ w, -a ≤ c ∧ c ≤ b)
    (hlen : w.length = 256) :
    bitPack m w a b (32 * bl) = .ok (Spec.bitPack bl b w) := by
  rw [bitPack_is_spec ⟨⟨by omega, ha.2⟩, hb, hbl, hbl2, hab⟩ w hw hlen, if_neg (by omega)]

theorem simple_bit_pack_is_SimpleBitPack (m : Mode) (w : Poly) (b : Int) (bl : Nat) (hb : 1 ≤ b ∧ b < 1048576)
    (hbl : bitLen m (0 + b) = .ok bl) (hbl2 : 1 ≤ bl ∧ bl ≤ 20) (hab : 0 + b < 2 ^ bl) (hw : ∀ c ∈ w, -0 ≤ c ∧ c ≤ b)
    (hlen : w.length = 256) :
    bitPack m w 0 b (32 * bl) = .ok (Spec.simpleBitPack bl w) := by
  rw [bitPack_is_spec ⟨by omega, hb, hbl, hbl2, hab⟩ w hw hlen, if_pos rfl]

theorem bit_unpack_is_BitUnpack_then_range_test (m : Mode) (v : List Nat) (a b : Int) (bl : Nat) (ha : 0 < a ∧ a < 1048576)
    (hb : 1 ≤ b ∧ b < 1048576) (hbl : bitLen m (a + b) = .ok bl) (hbl2 : 1 ≤ bl ∧ bl ≤ 20) (hv : ∀ x ∈ v, x < 256)
    (hlen : v.length = 32 * bl) :
    bitUnpack m v a b = (do
      let ok ← isInRange m (Spec.bitUnpack bl b v) a b
      if ok then pure (some (Spec.bitUnpack bl b v)) else pure none) := by
  rw [bitUnpack_is_spec (.of_bitLen ⟨by omega, ha.2⟩ hb hbl hbl2) v hv hlen, if_neg (by omega)]

theorem simple_bit_unpack_is_SimpleBitUnpack_then_range_test (m : Mode) (v : List Nat) (b : Int) (bl : Nat)
    (hb : 1 ≤ b ∧ b < 1048576) (hbl : bitLen m (0 + b) = .ok bl) (hbl2 : 1 ≤ bl ∧ bl ≤ 20) (hv : ∀ x ∈ v, x < 256)
    (hlen : v.length = 32 * bl) :
    bitUnpack m v 0 b = (do
      let ok ← isInRange m (Spec.simpleBitUnpack bl v) 0 b
      if ok then pure (some (Spec.simpleBitUnpack bl v)) else pure none) := by
  rw [bitUnpack_is_spec (.of_bitLen (by omega) hb hbl hbl2) v hv hlen, if_pos rfl]

/-- the hypotheses are met by the crate's parameter pairs: `t1` (`SimpleBitPack`, 10 bits) and `t0` (`BitPack`, 13 bits) -/
example (m : Mode) : bitLen m (0 + 1023) = .ok 10 ∧ (0 : Int) + 1023 < 2 ^ 10 := ⟨bitLen_1023 m, by decide⟩
example (m : Mode) : bitLen m (top - 1 + top) = .ok 13 := bitLen_t0 m

/-- the standard's functions on a concrete value: `BitPack` of the all-`b` polynomial is all zero bits, of the all-`-a` one all ones -/
example : Spec.bitPack 3 2 (List.replicate 256 2) = List.replicate 96 0 := by decide +kernel
example : Spec.bitPack 3 2 (List.replicate 256 (-2)) = (List.range 96).map (fun i => [36, 73, 146][i % 3]!) := by decide +kernel
example : Spec.bitUnpack 3 2 (List.replicate 96 0) = List.replicate 256 2 := by decide +kernel


/-! ### the hint codec and the signature codec are Algorithms 20, 21, 26, 27 as written -/

theorem hint_bit_pack_is_HintBitPack (m : Mode) (omega : Int) (h : List Poly) (k : Nat) (ho : 0 ≤ omega) (hk : h.length = k)
    (hok : 1 ≤ omega.toNat + k ∧ omega.toNat + k < 256) (hb : ∀ q ∈ h, Bin q) (hsum : onesAll h ≤ omega.toNat) :
    hintBitPack m false omega h (omega.toNat + k) = .ok (Spec.hintBitPack omega.toNat h) :=
  hintBitPack_is_algorithm_20 m omega h k ho hk hok hb hsum

theorem hint_bit_unpack_is_algorithm_21 (m : Mode) (k : Nat) (omega : Int) (y : List Nat) (hy : ∀ b ∈ y, b < 256)
    (ho : 0 ≤ omega) (hk : 1 ≤ omega.toNat + k ∧ omega.toNat + k < 256) (hlen : y.length = omega.toNat + k) :
    hintBitUnpack m k omega y = .ok (Spec.hintBitUnpack omega.toNat k y) :=
  hintBitUnpack_is_algorithm_21 m k omega y hy ho hk hlen

theorem sig_encode_is_sigEncode (m : Mode) (p : ParamSet) (blz : Nat) (cfg : SigCfg p blz) (ct : List Nat) (z h : List Poly)
    (hct : ct.length = p.lambdaDiv4) (hz : Sh p.l z) (hzr : ∀ q ∈ z, ∀ c ∈ q, -(p.gamma1 - 1) ≤ c ∧ c ≤ p.gamma1)
    (hh : Sh p.k h) (hb : ∀ q ∈ h, Bin q) (hsum : onesAll h ≤ p.omega.toNat) :
    sigEncode m false p ct z h = .ok (Spec.sigEncode blz p.gamma1 p.omega.toNat ct z h) :=
  sigEncode_is_algorithm_26 m p blz cfg ct z h hct hz hzr hh hb hsum

theorem sig_decode_is_algorithm_27 (m : Mode) (p : ParamSet) (blz : Nat) (cfg : SigCfg p blz) (sigma : List Nat) (hb : ∀ x ∈ sigma, x < 256)
    (hlen : sigma.length = p.sigLen) :
    sigDecode m p sigma = .ok (
      let d := Spec.sigDecode p.lambdaDiv4 p.l p.k p.omega.toNat blz p.gamma1 sigma
      match d.2.2 with
      | none => none
      | some h => some (d.1, d.2.1, h)) :=
  sigDecode_is_algorithm_27 m p blz cfg sigma (fun x hx => hb x (List.mem_of_mem_drop hx)) hlen

/-- the standard's `HintBitPack` on a concrete hint (a test, labelled as a test): k = 2, omega = 3, ones at h[0]_5 and h[1]_{0, 255} -/
example : Spec.hintBitPack 3 [(List.replicate 256 0).set 5 1, ((List.replicate 256 0).set 0 1).set 255 1] = [5, 0, 255, 1, 3] := by decide +kernel
example : Spec.hintBitUnpack 3 2 [5, 0, 255, 1, 3] = some [(List.replicate 256 0).set 5 1, ((List.replicate 256 0).set 0 1).set 255 1] := by decide +kernel

end Fips204.Props.C08
