import Fips204.Lemmas.SpecSign
/-!
# C18 (continued) — the standard's NTT multiplication is multiplication in `Z_q[X]/(X^256 + 1)`

`C18` / `C18b` prove that the crate's NTT pipeline computes the negacyclic product.  The same fact about the transforms of the standard
themselves (`Spec.ntt`, `Spec.invNtt`: Algorithms 41 / 42 with the zetas `1753^BitRev8(m) mod q`, `Spec.mulQ`: coefficient-wise product mod q)
is a by-product of the literal-specification layer (`cmul_is_spec`, used for lines 18, 19, 25 of Algorithm 7):

* `standard_ntt_product_is_the_negacyclic_product` — for all polynomials `a`, `b` of 256 integer coefficients,
  `NTT^-1(NTT(a) ∘ NTT(b))` is the canonical representative (coefficients in `[0, q)`) of the schoolbook product of `a` and `b` reduced by
  `X^256 = -1` (`negMul a b = negc (mulP a b)`).
-/
namespace Fips204.Props.C18
open Fips204 Fips204.Gen Fips204.Impl

theorem standard_ntt_product_is_the_negacyclic_product (a b : Poly) (la : a.length = 256) (lb : b.length = 256) :
    Spec.invNtt (Spec.mulQ (Spec.ntt a) (Spec.ntt b)) = canon (negMul a b) :=
  (cmul_is_spec a b la lb).symm

/-- a concrete instance (a test, labelled as a test): `X^255 * X = -1`, i.e. the constant `q - 1` -/
example : (canon (negMul ((List.replicate 255 0) ++ [1]) ([0, 1] ++ List.replicate 254 0))).head? = some 8380416 := by
  show (canon (negMul (List.replicate 255 0 ++ [1]) (0 :: 1 :: List.replicate 254 0))).head? = some 8380416
  rw [negMul_x255_x]
  rfl

end Fips204.Props.C18
