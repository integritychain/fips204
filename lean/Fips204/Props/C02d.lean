import Fips204.Lemmas.OracleReal
import Fips204.Props.C02c
/-!
# C02 (continued) — the two verifying entry points are FIPS 204 Algorithms 3 and 5 **as the standard writes them**

`Spec.verify` / `Spec.hashVerify` (`Spec/MlDsa.lean`) transcribe Algorithms 3 and 5: the context-length rejection, the formatted message
`IntegerToBytes(0 or 1, 1) ‖ IntegerToBytes(|ctx|, 1) ‖ ctx ‖ (M or OID ‖ PH(M))`, the OID / digest table, then Algorithm 8.

* `verify_is_ML_DSA_Verify_as_written`, `hash_verify_is_HashML_DSA_Verify_as_written` — for each parameter set, every byte string of
  public-key length, every message, **every context of any length**, every byte string of signature length (and each of the three pre-hash
  functions), in both build modes: the entry point, on the struct deserialisation returns, gives exactly the Boolean of the standard's algorithm
  on the bytes.  For Algorithm 5 the digests must have their nominal lengths (`Spec.WF`: SHA-256 32 bytes, SHA-512 64 bytes).
-/
namespace Fips204.Props.C02
open Fips204 Fips204.Gen Fips204.Impl

theorem verify_is_ML_DSA_Verify_as_written (m : Mode) (O : Oracles) (hO : OracleOk O) (p : ParamSet)
    (hp : p ∈ [ml_dsa_44, ml_dsa_65, ml_dsa_87]) (pkb msg sig ctx : List Nat)
    (hpb : ∀ x ∈ pkb, x < 256) (hpl : pkb.length = p.pkLen) (hb : ∀ x ∈ sig, x < 256) (hlen : sig.length = p.sigLen) :
    ∃ pk, expandPublic m O p pkb = .ok (some pk) ∧
      AgreesWith (verify m O p pk msg sig ctx)
        (Spec.verify (specParams p) O.h O.g (1680 * O.fuelScale) (8 + 1360 * O.fuelScale) pkb msg sig ctx) := by
  obtain ⟨pk, hpk, h8⟩ := verification_is_fips_204_algorithm_8_as_written m O hO p hp pkb msg sig ctx [] [] false hpb hpl hb hlen
  refine ⟨pk, hpk, ?_⟩
  rw [verify_eq]
  unfold Spec.verify
  refine ite_rel AgreesWith (fun _ => rfl) fun _ => ?_
  rw [formatted_pure] at h8
  exact h8

theorem hash_verify_is_HashML_DSA_Verify_as_written (m : Mode) (O : Oracles) (hO : OracleOk O) (hW : Spec.WF O) (p : ParamSet)
    (hp : p ∈ [ml_dsa_44, ml_dsa_65, ml_dsa_87]) (pkb msg sig ctx : List Nat) (ph : Ph)
    (hpb : ∀ x ∈ pkb, x < 256) (hpl : pkb.length = p.pkLen) (hb : ∀ x ∈ sig, x < 256) (hlen : sig.length = p.sigLen) :
    ∃ pk, expandPublic m O p pkb = .ok (some pk) ∧
      AgreesWith (hashVerify m O p pk msg sig ctx ph)
        (Spec.hashVerify (specParams p) O.h O.g O.sha256 O.sha512 (1680 * O.fuelScale) (8 + 1360 * O.fuelScale) pkb msg sig ctx (specPh ph)) := by
  obtain ⟨pk, hpk, h8⟩ := verification_is_fips_204_algorithm_8_as_written m O hO p hp pkb msg sig ctx
    (hashMessage O msg ph).1 (hashMessage O msg ph).2 false hpb hpl hb hlen
  refine ⟨pk, hpk, ?_⟩
  rw [hashVerify_eq]
  unfold Spec.hashVerify
  refine ite_rel AgreesWith (fun _ => rfl) fun _ => ?_
  rw [hashMessage_is_oidAndDigest O hW] at h8 ⊢
  rw [formatted_hash _ _ _ _ (oid_nonempty O msg (specPh ph))] at h8
  exact h8

/-- `hash_verify` is Algorithm 5 with no hypothesis on the hash functions: for SHAKE, SHA-256 and SHA-512 as the driver executes them
    (`OracleOk` and `Spec.WF` are proved of them in `Lemmas/OracleReal`) -/
theorem hash_verify_is_HashML_DSA_Verify_for_the_executed_hashes (m : Mode) (scale : Nat) (p : ParamSet)
    (hp : p ∈ [ml_dsa_44, ml_dsa_65, ml_dsa_87]) (pkb msg sig ctx : List Nat) (ph : Ph)
    (hpb : ∀ x ∈ pkb, x < 256) (hpl : pkb.length = p.pkLen) (hb : ∀ x ∈ sig, x < 256) (hlen : sig.length = p.sigLen) :
    ∃ pk, expandPublic m (Exec.realOracles scale) p pkb = .ok (some pk) ∧
      AgreesWith (hashVerify m (Exec.realOracles scale) p pk msg sig ctx ph)
        (Spec.hashVerify (specParams p) Exec.shake256 Exec.shake128 Exec.sha256 Exec.sha512 (1680 * scale) (8 + 1360 * scale) pkb msg sig ctx (specPh ph)) :=
  hash_verify_is_HashML_DSA_Verify_as_written m (Exec.realOracles scale) (driverOracles_ok scale) (driverOracles_wf scale) p hp pkb msg sig ctx ph hpb hpl hb hlen

/-- an over-long context is rejected by the standard's algorithm whatever the other inputs are (a test of the transcription, labelled as a test) -/
example (P : Spec.Params) (H G : List Nat → Nat → List Nat) (pk M sigma ctx : List Nat) (h : ctx.length > 255) :
    Spec.verify P H G 0 0 pk M sigma ctx = some false := by unfold Spec.verify; rw [if_pos h]

end Fips204.Props.C02
