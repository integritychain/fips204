import Fips204.Props.C03
/-!
# C06 — signatures are bound to context, mode and pre-hash function

The formatted-message encoding M' (domain byte, one length byte, context, then M or OID ‖ PH(M)) is
injective on contexts of at most 255 bytes; the three OIDs are pairwise distinct and of equal length.
Hence two different interpretations (message, context, mode) of a byte string that both verify under
one key hash *different* inputs `tr ‖ M'` to the same 64-byte `mu`, or exhibit a pre-hash collision:
an explicit collision, for arbitrary oracles.
-/
namespace Fips204.Props.C06
open Fips204 Fips204.Gen Fips204.Impl

/-- the three generated OIDs are the standard's, pairwise distinct, each 11 bytes -/
theorem oids_distinct_same_length :
    oid_SHA256 = Spec.oidSha256 ∧ oid_SHA512 = Spec.oidSha512 ∧ oid_SHAKE128 = Spec.oidShake128 ∧
    oid_SHA256 ≠ oid_SHA512 ∧ oid_SHA256 ≠ oid_SHAKE128 ∧ oid_SHA512 ≠ oid_SHAKE128 ∧
    oid_SHA256.length = 11 ∧ oid_SHA512.length = 11 ∧ oid_SHAKE128.length = 11 := by decide

/-- pure-mode formatting is injective: every other split of the same bytes between context and message differs -/
theorem fmtPure_injective (ctx ctx' M M' : List Nat) (h : Spec.fmtPure ctx M = Spec.fmtPure ctx' M') :
    ctx = ctx' ∧ M = M' := by
  simp only [Spec.fmtPure, List.cons_append, List.nil_append, List.cons.injEq, true_and] at h
  obtain ⟨hl, hr⟩ := h
  have := List.append_inj hr hl
  exact this

/-- pure and pre-hash formatting never coincide (domain byte 0 versus 1), whatever the message mimics -/
theorem fmtPure_ne_fmtHash (ctx ctx' M oid phm : List Nat) : Spec.fmtPure ctx M ≠ Spec.fmtHash ctx' oid phm := by
  simp [Spec.fmtPure, Spec.fmtHash]

/-- pre-hash formatting is injective in (context, OID, digest) for OIDs of equal length -/
theorem fmtHash_injective (ctx ctx' oid oid' phm phm' : List Nat) (ho : oid.length = oid'.length)
    (h : Spec.fmtHash ctx oid phm = Spec.fmtHash ctx' oid' phm') : ctx = ctx' ∧ oid = oid' ∧ phm = phm' := by
  simp only [Spec.fmtHash, List.append_assoc, List.cons_append, List.nil_append, List.cons.injEq, true_and] at h
  obtain ⟨hl, hr⟩ := h
  obtain ⟨h1, h2⟩ := List.append_inj hr hl
  obtain ⟨h3, h4⟩ := List.append_inj h2 ho
  exact ⟨h1, h3, h4⟩

/-- an interpretation of a signed byte string -/
structure Interp where
  ctx : List Nat
  msg : List Nat
  ph : Option Ph          -- none = pure ML-DSA
  deriving DecidableEq

/-- the formatted message of an interpretation (Algorithms 2-5) -/
def Interp.fmt (O : Oracles) (i : Interp) : List Nat :=
  match i.ph with
  | none => Spec.fmtPure i.ctx i.msg
  | some ph => Spec.fmtHash i.ctx (Spec.prehash O i.msg ph).1 (Spec.prehash O i.msg ph).2

/-- a collision of the pre-hash function `ph`: two different messages with the same digest -/
def PrehashCollision (O : Oracles) (i j : Interp) : Prop :=
  ∃ ph, i.ph = some ph ∧ j.ph = some ph ∧ i.msg ≠ j.msg ∧ (Spec.prehash O i.msg ph).2 = (Spec.prehash O j.msg ph).2

theorem prehash_oid_len (O : Oracles) (M : List Nat) (ph : Ph) : (Spec.prehash O M ph).1.length = 11 := by
  cases ph <;> rfl

theorem prehash_oid_inj (O : Oracles) (M M' : List Nat) (ph ph' : Ph)
    (h : (Spec.prehash O M ph).1 = (Spec.prehash O M' ph').1) : ph = ph' := by
  cases ph <;> cases ph' <;> first | rfl | (exfalso; revert h; simp [Spec.prehash, Spec.oidSha256, Spec.oidSha512, Spec.oidShake128])

/-- **binding**: two different interpretations have different formatted messages, unless they exhibit a
    pre-hash collision.  (So if both verify against the same `mu`, `O.h` collides on `tr ‖ M'`.) -/
theorem different_interpretations_format_differently (O : Oracles) (i j : Interp) (hne : i ≠ j)
    (h : i.fmt O = j.fmt O) : PrehashCollision O i j := by
  obtain ⟨c1, m1, p1⟩ := i
  obtain ⟨c2, m2, p2⟩ := j
  cases p1 with
  | none =>
    cases p2 with
    | none =>
      simp only [Interp.fmt] at h
      obtain ⟨hc, hm⟩ := fmtPure_injective _ _ _ _ h
      subst hc hm; exact absurd rfl hne
    | some ph2 => simp only [Interp.fmt] at h; exact absurd h (fmtPure_ne_fmtHash _ _ _ _ _)
  | some ph1 =>
    cases p2 with
    | none => simp only [Interp.fmt] at h; exact absurd h.symm (fmtPure_ne_fmtHash _ _ _ _ _)
    | some ph2 =>
      simp only [Interp.fmt] at h
      obtain ⟨hc, ho, hd⟩ := fmtHash_injective _ _ _ _ _ _ (by rw [prehash_oid_len, prehash_oid_len]) h
      have hp := prehash_oid_inj O m1 m2 ph1 ph2 ho
      subst hc hp
      refine ⟨ph1, rfl, rfl, ?_, hd⟩
      intro hm; subst hm; exact hne rfl

/-- the verifier's message representative is `H(tr ‖ M')` of the interpretation it is asked about -/
theorem verifier_mu_is_fmt (O : Oracles) (hO : Spec.WF O) (tr : List Nat) (i : Interp) (h : i.ctx.length ≤ 255) :
    (match i.ph with
     | none => muOf O domPure_verify domHash_verify tr i.msg i.ctx [] [] false
     | some ph => muOf O domPure_verify domHash_verify tr i.msg i.ctx (hashMessage O i.msg ph).1 (hashMessage O i.msg ph).2 false)
    = O.h (tr ++ i.fmt O) 64 := by
  obtain ⟨c, mm, p⟩ := i
  cases p with
  | none =>
    have := C03.mu_pure_is_fips O tr mm c h
    simpa [Interp.fmt, show domPure_verify = domPure_sign by decide, show domHash_verify = domHash_sign by decide] using this
  | some ph =>
    have hne : (hashMessage O mm ph).1 ≠ [] := by
      rw [C03.hashMessage_is_fips O hO]; cases ph <;> simp [Spec.prehash, Spec.oidSha256, Spec.oidSha512, Spec.oidShake128]
    have := C03.mu_hash_is_fips O tr mm c (hashMessage O mm ph).1 (hashMessage O mm ph).2 h hne
    rw [C03.hashMessage_is_fips O hO] at this
    simp only [Interp.fmt, show domPure_verify = domPure_sign by decide, show domHash_verify = domHash_sign by decide,
      C03.hashMessage_is_fips O hO]
    exact this

/-! non-vacuity: two concrete, different interpretations of the same concatenated bytes -/
example : (⟨[1, 2], [3], none⟩ : Interp) ≠ ⟨[1], [2, 3], none⟩ := by decide
example : Spec.fmtPure [1, 2] [3] ≠ Spec.fmtPure [1] [2, 3] := by decide

end Fips204.Props.C06
