import Fips204.Lemmas.Encodings
/-!
# C08 (continued) — encodings are canonical, at full parameters, for every byte string

* `signature_reencodes_to_the_same_bytes`: for each of the three parameter sets and **every** byte string of signature
  length that `sig_decode` accepts, `sig_encode` of the decoded (c~, z, h) is that byte string.  Hence
  `signature_encoding_is_unique`: two accepted byte strings with the same decoding are equal.
* `bit_pack_inverts_bit_unpack` / `bit_unpack_inverts_bit_pack`: coefficient packing is a bijection between the
  accepted byte strings and the in-range coefficient vectors, for every (a, b) with `a + b < 2^bitlen`.
* `hint_section_reencodes_to_the_same_bytes`, `accepted_hint_sections_are_well_formed`: the hint codec is canonical,
  and acceptance implies sorted / non-repeating indices, monotone counts at most omega, zero padding.

Proofs: `bit_unpack` and `bit_pack` are the digits of one number read in base `2^bitlen` and in base 256 (one bit-queue
invariant for both loops, `Lemmas/{DigitCodec,BitCodec}`); the hint decoder and encoder are Algorithms 21 / 20 (`Lemmas/HintCodec`), which have
closed forms (`polysOf`, `yOf`, `Lemmas/SpecHint`) that are inverse to each other as lists (`yOf_polysOf`, `polysOf_yOf`, `Lemmas/HintLists`);
`sig_encode` / `sig_decode` are Algorithms 26 / 27
(`Lemmas/SpecEncode`), which are mutually inverse (`Lemmas/SpecRoundTrip`); the statements here are read off in `Lemmas/Encodings`.
-/
namespace Fips204.Props.C08
open Fips204 Fips204.Gen Fips204.Impl

theorem sigCfg_of_mem (p : ParamSet) (hp : p ∈ [ml_dsa_44, ml_dsa_65, ml_dsa_87]) : ∃ blz, SigCfg p blz := by
  simp only [List.mem_cons, List.mem_nil_iff, or_false] at hp
  rcases hp with rfl | rfl | rfl
  · exact ⟨18, sigCfg_44⟩
  · exact ⟨20, sigCfg_65⟩
  · exact ⟨20, sigCfg_87⟩

theorem signature_reencodes_to_the_same_bytes (m : Mode) (p : ParamSet) (hp : p ∈ [ml_dsa_44, ml_dsa_65, ml_dsa_87])
    (sigma : List Nat) (hb : ∀ x ∈ sigma, x < 256) (hlen : sigma.length = p.sigLen) (ct : List Nat) (z h : List Poly)
    (hdec : sigDecode m p sigma = .ok (some (ct, z, h))) : sigEncode m false p ct z h = .ok sigma := by
  obtain ⟨blz, cfg⟩ := sigCfg_of_mem p hp
  exact sigEncode_sigDecode m p blz cfg sigma hb hlen ct z h hdec

/-- no two different byte strings are read as the same signature -/
theorem signature_encoding_is_unique (m : Mode) (p : ParamSet) (hp : p ∈ [ml_dsa_44, ml_dsa_65, ml_dsa_87])
    (s1 s2 : List Nat) (hb1 : ∀ x ∈ s1, x < 256) (hb2 : ∀ x ∈ s2, x < 256) (hl1 : s1.length = p.sigLen) (hl2 : s2.length = p.sigLen)
    (d : List Nat × List Poly × List Poly) (h1 : sigDecode m p s1 = .ok (some d)) (h2 : sigDecode m p s2 = .ok (some d)) : s1 = s2 := by
  obtain ⟨ct, z, h⟩ := d
  have e1 := signature_reencodes_to_the_same_bytes m p hp s1 hb1 hl1 ct z h h1
  have e2 := signature_reencodes_to_the_same_bytes m p hp s2 hb2 hl2 ct z h h2
  rw [e1] at e2
  exact ok_inj e2

theorem bit_pack_inverts_bit_unpack (m : Mode) (v : List Nat) (a b : Int) (bl : Nat) (ha : 0 ≤ a ∧ a < 1048576) (hb : 1 ≤ b ∧ b < 1048576)
    (hbl : bitLen m (a + b) = .ok bl) (hbl2 : 1 ≤ bl ∧ bl ≤ 20) (hab : a + b < 2 ^ bl) (hv : ∀ x ∈ v, x < 256)
    (hlen : v.length = 32 * bl) (w : Poly) (h : bitUnpack m v a b = .ok (some w)) : bitPack m w a b (32 * bl) = .ok v :=
  bitPack_bitUnpack ⟨ha, hb, hbl, hbl2, hab⟩ v hv hlen w h

theorem bit_unpack_inverts_bit_pack (m : Mode) (w : Poly) (a b : Int) (bl : Nat) (ha : 0 ≤ a ∧ a < 1048576) (hb : 1 ≤ b ∧ b < 1048576)
    (hbl : bitLen m (a + b) = .ok bl) (hbl2 : 1 ≤ bl ∧ bl ≤ 20) (hab : a + b < 2 ^ bl) (hw : ∀ c ∈ w, -a ≤ c ∧ c ≤ b)
    (hlen : w.length = 256) :
    ∃ v, bitPack m w a b (32 * bl) = .ok v ∧ v.length = 32 * bl ∧ (∀ x ∈ v, x < 256) ∧ bitUnpack m v a b = .ok (some w) :=
  bitUnpack_bitPack ⟨ha, hb, hbl, hbl2, hab⟩ w hw hlen

theorem hint_section_reencodes_to_the_same_bytes (m : Mode) (k : Nat) (omega : Int) (y : List Nat) (hy : ∀ b ∈ y, b < 256)
    (ho : 0 ≤ omega) (hk : 1 ≤ omega.toNat + k ∧ omega.toNat + k < 256) (hlen : y.length = omega.toNat + k)
    (h : List Poly) (hdec : hintBitUnpack m k omega y = .ok (some h)) : hintBitPack m false omega h (omega.toNat + k) = .ok y :=
  hintBitPack_hintBitUnpack m k omega y hy ho hk hlen h hdec

theorem accepted_hint_sections_are_well_formed (m : Mode) (k : Nat) (omega : Int) (y : List Nat) (hy : ∀ b ∈ y, b < 256)
    (ho : 0 ≤ omega) (hk : 1 ≤ k ∧ omega.toNat + k < 256) (hlen : y.length = omega.toNat + k)
    (h : List Poly) (hdec : hintBitUnpack m k omega y = .ok (some h)) :
    hintWF y omega.toNat omega.toNat k 0 0 ∧ ∀ p, y.getD (omega.toNat + k - 1) 0 ≤ p → p < omega.toNat → y.getD p 0 = 0 :=
  hintBitUnpack_accepts_only_wellformed m k omega y hy ho hk hlen h hdec

/-- non-vacuity: the all-zero ML-DSA-44 hint section (no hints) is accepted -/
example : ((hintBitUnpack .checked 4 80 (List.replicate 84 0)).toOption.bind id).isSome = true := by decide +kernel

/-- **`hint_bit_unpack ∘ hint_bit_pack = id`**: every 0/1 hint with at most omega ones is decoded back from its encoding
    (with `hint_section_reencodes_to_the_same_bytes`: the hint codec is a bijection between well-formed hints and accepted sections) -/
theorem hint_unpack_inverts_hint_pack (m : Mode) (k : Nat) (omega : Int) (h : List Poly) (ho : 0 ≤ omega)
    (hk : 1 ≤ omega.toNat + k ∧ omega.toNat + k < 256) (hl : h.length = k) (hb : ∀ q ∈ h, Bin q) (hsum : onesAll h ≤ omega.toNat)
    (y : List Nat) (hp : hintBitPack m false omega h (omega.toNat + k) = .ok y) : hintBitUnpack m k omega y = .ok (some h) :=
  hintBitUnpack_hintBitPack m k omega h ho hk hl hb hsum y hp

/-- **`sig_decode ∘ sig_encode = id`** for the three parameter sets: an in-range `(c~, z, h)` is encoded to a string of signature
    length, of bytes, which decodes back to `(c~, z, h)` (with `signature_reencodes_to_the_same_bytes`: a bijection) -/
theorem signature_decodes_to_what_was_encoded (m : Mode) (p : ParamSet) (hp : p ∈ [ml_dsa_44, ml_dsa_65, ml_dsa_87])
    (ct : List Nat) (z h : List Poly) (hct : ct.length = p.lambdaDiv4) (hz : Sh p.l z)
    (hzr : ∀ q ∈ z, ∀ c ∈ q, -(p.gamma1 - 1) ≤ c ∧ c ≤ p.gamma1) (hh : Sh p.k h) (hb : ∀ q ∈ h, Bin q)
    (hsum : onesAll h ≤ p.omega.toNat) (sig : List Nat) (henc : sigEncode m false p ct z h = .ok sig) :
    sig.length = p.sigLen ∧ ((∀ b ∈ ct, b < 256) → ∀ b ∈ sig, b < 256) ∧ sigDecode m p sig = .ok (some (ct, z, h)) := by
  obtain ⟨blz, cfg⟩ := sigCfg_of_mem p hp
  exact sigEncode_facts m p blz cfg ct z h hct hz hzr hh hb hsum sig henc

end Fips204.Props.C08
