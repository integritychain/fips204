import Fips204.Lemmas.Api
import Fips204.Lemmas.SignSpec
/-!
# C13 (continued) — the signing path never panics

For every private-key struct that `expand_private` returns (i.e. any key deserialisation accepted), every message,
context, pre-hash function and every behaviour of the caller's random generator, `try_sign_with_rng`,
`try_hash_sign_with_rng` and `_internal_sign` return a value (a signature or an error) in both build modes - within the
first `fuel` attempts of the rejection loop, where `fuel * l ≤ 65535`: the crate's attempt counter `kappa` is a `u16`
stepped by `l`, so more than `65535 / l` (9362 for ML-DSA-87) consecutive rejections would overflow it; the probability
of that is below 2^-256 and it is the one residual panic of the signing path, stated in the hypothesis rather than hidden.
As in `C13b`, the model's extra outcome `Fault.fuel` (finite XOF prefix / attempt budget exhausted) is allowed.

Composition (`signInternal_sim` in `Lemmas/SignSpec`, over the contracts of `Lemmas/SignOk` and `Lemmas/NttContracts`): `expand_mask` stays inside the encoder's range; the commitment pipeline cannot overflow
(C18); `high_bits` stays inside `w1_encode`'s asserted range; `sample_in_ball`'s assertions hold; `c s1`, `c s2`, `c t0`
fit `mont_reduce` and the inverse transform; `partial_reduce32`, `low_bits`, `make_hint` are called inside their
domains (C15); an accepted attempt satisfies every assertion of `sig_encode` and `hint_bit_pack` (norm bound implies the
response range, the hint count bound implies the per-polynomial bounds and the index discipline).
-/
namespace Fips204.Props.C13
open Fips204 Fips204.Gen Fips204.Impl

theorem draw_try_fill_ok (propagated : Bool) (script : List RngResp) (n : Nat) :
    ∃ r, draw "try_fill_bytes" propagated script n = .ok r := by
  unfold draw
  rw [if_pos (by decide)]
  cases script with
  | nil => exact ⟨_, rfl⟩
  | cons r rest =>
    cases r with
    | ok b => simp only []; split <;> exact ⟨_, rfl⟩
    | errBefore => exact ⟨_, rfl⟩
    | errAfter w => exact ⟨_, rfl⟩

theorem signCfg_of_mem (p : ParamSet) (hp : p ∈ [ml_dsa_44, ml_dsa_65, ml_dsa_87]) :
    ∃ blz, VerCfg p blz ∧ (1 ≤ p.k ∧ p.k ≤ 8) ∧ (0 ≤ p.eta ∧ p.eta ≤ 4) := by
  obtain ⟨blz, _, c⟩ := paramCfg_of_mem .release p hp
  exact ⟨blz, c.ver, c.k, eta_le_four c.eta⟩

/-- the three signing entry points on any accepted private key -/
theorem signing_never_panics (m : Mode) (O : Oracles) (hO : OracleOk O) (p : ParamSet) (hp : p ∈ [ml_dsa_44, ml_dsa_65, ml_dsa_87])
    (fuel : Nat) (hfuel : fuel * p.l ≤ 65535) (skb : List Nat) (sk : PrivateKey) (hsk : expandPrivate m p skb = .ok (some sk))
    (msg ctx rnd : List Nat) (ph : Ph) (script : List RngResp) :
    NoPanic (sign m O p fuel sk msg ctx script) (fun _ => True) ∧ NoPanic (hashSign m O p fuel sk msg ctx ph script) (fun _ => True) ∧
    NoPanic (internalSign m O p fuel sk msg ctx rnd) (fun _ => True) := by
  obtain ⟨blz, cfg, hk, he⟩ := signCfg_of_mem p hp
  obtain ⟨d, _, _, _, _, hof⟩ := expandPrivate_skOf m p he skb sk hsk
  have hs : ∀ oid phm rnd nist, NoPanic (signInternal m O CTEST_default p fuel sk msg ctx oid phm rnd nist) (fun _ => True) :=
    fun oid phm rnd nist => (signInternal_sim m O hO p blz cfg hk he fuel hfuel sk _ _ _ hof msg ctx oid phm rnd nist).1
  refine ⟨?_, ?_, ?_⟩
  · rw [sign_eq]
    exact NoPanic.ite (NoPanic.ok _ trivial) (drawEntry_np fun rnd' => hs [] [] rnd' false)
  · rw [hashSign_eq]
    exact NoPanic.ite (NoPanic.ok _ trivial) (drawEntry_np fun rnd' => hs _ _ rnd' false)
  · rw [internalSign_eq]
    exact NoPanic.ite (NoPanic.ok _ trivial) ((hs [] [] rnd true).bind fun s _ => NoPanic.ok _ trivial)

end Fips204.Props.C13
