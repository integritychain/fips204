import Fips204.Lemmas.SpecSign
/-!
# C03 (continued) — `sign_internal` is FIPS 204 Algorithm 7 **as the standard writes it**, from the private-key bytes

`Spec.signInternal` (`Spec/MlDsa.lean`) transcribes Algorithm 7 line by line on top of `Spec/{Codec,Sample,Ntt}` and mentions nothing of
the crate: `ExpandA`; `mu`, `rho''`; the loop over `kappa` of `ExpandMask`, `w = NTT^-1(A_hat ∘ NTT(y))`, `HighBits`, the commitment hash,
`SampleInBall`, `NTT^-1(c_hat ∘ NTT(s))` for `s1`, `s2`, `t0`, `LowBits`, the four rejection conditions, `MakeHint`; `sigEncode` of
`(c~, z mod± q, h)`.  `Spec.skDecode` is Algorithm 25.  XOF streams are read through a finite prefix (`none` when it runs out; the model then
reports the model-only outcome `Fault.fuel`, see `AgreesSig`), and the loop takes an explicit attempt budget.

* `sign_internal_is_Sign_internal_as_written` — for each parameter set, every byte string of private-key length that deserialisation accepts,
  every formatted message (three entry paths), every `rnd`, in both build modes and within `fuel * l ≤ 65535` attempts (the crate's 16-bit
  counter; C13c): the crate's `sign_internal` on the struct `expand_private` built returns exactly the signature
  `Spec.signInternal` computes from `Spec.skDecode` of the bytes.  One property of SHAKE256 is used (`OraclePrefix`: asking for fewer bytes
  gives a prefix); everything else is arithmetic.
-/
namespace Fips204.Props.C03
open Fips204 Fips204.Gen Fips204.Impl

theorem sign_internal_is_Sign_internal_as_written (m : Mode) (O : Oracles) (hO : OracleOk O) (hP : OraclePrefix O)
    (p : ParamSet) (hp : p ∈ [ml_dsa_44, ml_dsa_65, ml_dsa_87]) (fuel : Nat) (hfuel : fuel * p.l ≤ 65535)
    (skb : List Nat) (hb : ∀ x ∈ skb, x < 256) (hlen : skb.length = p.skLen)
    (sk : PrivateKey) (hsk : expandPrivate m p skb = .ok (some sk)) (msg ctx oid phm rnd : List Nat) (nist : Bool) :
    let d := Spec.skDecode (Spec.bitlen (2 * p.eta)) p.eta p.k p.l skb
    AgreesSig (signInternal m O CTEST_default p fuel sk msg ctx oid phm rnd nist)
      (Spec.signInternal (specParams p) O.h O.g (1680 * O.fuelScale) (8 + 1360 * O.fuelScale) fuel
        d.1 d.2.1 d.2.2.1 d.2.2.2.1 d.2.2.2.2.1 d.2.2.2.2.2 (Spec.formatted nist msg ctx oid phm) rnd) := by
  obtain ⟨blz, bl, c⟩ := paramCfg_of_mem m p hp
  have he := c.eta
  have he4 := eta_le_four he
  rw [c.etaBitlen]
  obtain ⟨d, hr, e1, e2, e3, hof⟩ := expandPrivate_skOf m p he4 skb sk hsk
  have hdec := skDecode_is_algorithm_25 m p skb (fun x hx => hb x (List.mem_of_mem_drop hx)) he bl c.etaBits (by rw [hlen, c.skLen]) hlen.symm
  rw [hr] at hdec
  obtain rfl := Option.some.inj (Option.ite_none_right_eq_some.mp (ok_inj hdec).symm).2
  intro d'
  have h7 := signSpec_is_algorithm_7 m O hO hP p blz c.ver c.k he fuel hfuel _ _ _ _ hof (hof.skOk he4) msg ctx oid phm rnd nist
  rw [e1, e2, e3] at h7
  rw [show CTEST_default = false from rfl, signInternal_eq_spec m O hO p blz c.ver c.k he4 fuel hfuel _ _ _ _ hof msg ctx oid phm rnd nist,
    e1, e2, e3]
  exact h7

/-- a test, labelled as a test: the three parameter sets meet the configuration facts the proof uses.  The other hypotheses are those
    of `signing_is_algorithm_7` (`Props/C03b`) together with "`skb` consists of bytes and has private-key length". -/
example : VerCfg ml_dsa_44 18 ∧ VerCfg ml_dsa_65 20 ∧ VerCfg ml_dsa_87 20 := ⟨verCfg_44, verCfg_65, verCfg_87⟩

end Fips204.Props.C03
