import Fips204.Lemmas.SignVerify
import Fips204.Props.C15
/-!
# C01 (continued) — the two arithmetic facts signature correctness rests on

* `use_hint_recovers_high_bits`: `UseHint(MakeHint(z, r), r) = HighBits(r + z)` for every `r` and every `|z| ≤ gamma2`,
  both values of `gamma2` - as FIPS 204 functions (`Spec`), and for the crate's kernels on their whole domain
  (`kernels_use_hint_recovers_high_bits`).  This is why the verifier's `w1' = UseHint(h, w'_Approx)` equals the signer's
  `w1` once `‖c t0‖∞ < gamma2`.
* `high_bits_stable_under_small_shift`: if `|LowBits(r)| < gamma2 - b` and `|s| ≤ b` then
  `HighBits(r + s) = HighBits(r)` - why the signer's `‖r0‖∞ < gamma2 - beta` test makes `HighBits(w - c s2) = w1`.

* `signer_hint_coefficient`: the per-coefficient core of completeness - if `|c s2| ≤ beta` (centred), `|LowBits(w - c s2)| <
  gamma2 - beta` and `|c t0| < gamma2` (centred), then `UseHint(MakeHint(-c t0, w - c s2 + c t0), w - c s2 + c t0) = HighBits(w)`,
  with `c s2`, `c t0` given by *any* representatives modulo q (the crate's are canonical, the standard's centred).
* `challenge_times_small_vector_is_small`: `‖c * s‖∞ ≤ tau * eta` (centred) for the negacyclic product of a challenge with
  exactly `tau` coefficients `±1` and a polynomial with `‖s‖∞ ≤ eta` - so the first hypothesis always holds (`beta = tau * eta`);
  `challenge_has_weight_tau`: every polynomial `sample_in_ball` returns is such a challenge.

Together with C18 (the pipelines compute ring products), C08 (the encodings round-trip), C09/C11 (all key provenances
are the same structs) and C02 (verification is Algorithm 8) these are the ingredients of the completeness proof.

* `ntt_and_inverse_are_mutually_inverse`, `verifier_ring_identity`: with `t = A s1 + s2`, `(t1, t0) = Power2Round(t)`, `z = y + c s1`,
  the verifier's `NTT^-1(A_hat ∘ NTT(z) - NTT(c) ∘ NTT(t1 2^d))` is `A y - c s2 + c t0` modulo q, row by row.
* `accepted_attempt_verifies`: an accepted attempt of Algorithm 7 (lines 11-29) passes lines 5-13 of Algorithm 8: same `c`, same
  `w1` (all of the above, lifted to vectors), same commitment hash, norm test passed.
* the assembly (`signature_verifies_spec`, `sign_then_verify`, the API-level corollaries) is in `Props/C01c`.
-/
namespace Fips204.Props.C01
open Fips204 Fips204.Gen

theorem use_hint_recovers_high_bits (g r z : Int) (hg : g = 95232 ∨ g = 261888) (hz : -g ≤ z ∧ z ≤ g) :
    Spec.useHint g (if Spec.makeHint g z r then 1 else 0) r = Spec.highBits g (r + z) :=
  Spec.hint_duality (K.G2.rnd hg) r z hz

theorem high_bits_stable_under_small_shift (g r s b : Int) (hg : g = 95232 ∨ g = 261888) (hb : 0 ≤ b ∧ b ≤ g) (hs : -b ≤ s ∧ s ≤ b)
    (hl : -(g - b) < Spec.lowBits g r ∧ Spec.lowBits g r < g - b) : Spec.highBits g (r + s) = Spec.highBits g r :=
  Spec.highBits_stable g r s b hg hb hs hl

/-- the same, for the crate's kernels (both build modes): feeding `make_hint`'s answer to `use_hint` gives `high_bits(r + z)` -/
theorem kernels_use_hint_recovers_high_bits (m : Mode) (g z r : Int) (hg : g = 95232 ∨ g = 261888) (hz : -g ≤ z ∧ z ≤ g)
    (h1 : -2143289344 < r) (h2 : r < 2143289344) (h3 : -2143289344 < r + z) (h4 : r + z < 2143289344) :
    ∃ hb, make_hint m g z r = .ok hb ∧ use_hint m g (if hb then 1 else 0) r = high_bits m g (r + z) := by
  refine ⟨Spec.makeHint g z r, C15.make_hint_spec m g z r hg h1 h2 h3 h4, ?_⟩
  rw [C15.use_hint_spec m g _ r hg (by split <;> simp) h1 h2, C15.high_bits_spec m g (r + z) hg h3 h4,
    Spec.hint_duality (K.G2.rnd hg) r z hz]

theorem signer_hint_coefficient (g beta w cs2 ct0 : Int) (hg : g = 95232 ∨ g = 261888) (hb : 0 ≤ beta ∧ beta ≤ g)
    (h1 : -beta ≤ modpm Q cs2 ∧ modpm Q cs2 ≤ beta)
    (h2 : -(g - beta) < Spec.lowBits g (w - cs2) ∧ Spec.lowBits g (w - cs2) < g - beta)
    (h3 : -g < modpm Q ct0 ∧ modpm Q ct0 < g) :
    Spec.useHint g (if Spec.makeHint g (-ct0) (w - cs2 + ct0) then 1 else 0) (w - cs2 + ct0) = Spec.highBits g w :=
  Impl.coeff_hint g beta w cs2 ct0 hg hb h1 h2 h3

theorem challenge_times_small_vector_is_small (c s : Impl.Poly) (tau eta : Int) (hc : Impl.Tri c) (hn : (Impl.nz c : Int) = tau)
    (hs : s.length = 256) (hB : ∀ x ∈ s, -eta ≤ x ∧ x ≤ eta) (he : 0 ≤ eta) (hsmall : eta * tau ≤ 4190208) :
    ∀ x ∈ Impl.cmul c s, -(eta * tau) ≤ modpm Q x ∧ modpm Q x ≤ eta * tau :=
  Impl.cmul_centered_bound c s tau eta hc hn hs hB hsmall

theorem challenge_has_weight_tau (m : Mode) (O : Impl.Oracles) (hO : Impl.OracleOk O) (ctest : Bool) (tau : Int) (rho : List Nat)
    (ht : 0 ≤ tau ∧ tau ≤ 64) : Impl.NoPanic (Impl.sampleInBall m O ctest tau rho) (fun c => Impl.Tri c ∧ Impl.nz c = tau.toNat) :=
  Impl.sampleInBall_np_tri m O hO ctest tau rho ht

/-- the two transforms are mutually inverse (exact specifications, modulo q): `NTT(NTT^-1(v)) = v` and `NTT^-1(NTT(w)) = w` -/
theorem ntt_and_inverse_are_mutually_inverse (v : List Int) (hv : v.length = 256) :
    Impl.CongL (Impl.nttS 8 1 (Impl.invC v)) v ∧ Impl.CongL (Impl.invC (Impl.nttS 8 1 v)) v :=
  ⟨Impl.nttS_invC v hv, Impl.invC_nttS v hv⟩

/-- **the verifier's ring identity**, one row, exact specifications: with `t = A s1 + s2`, `(t1, t0) = Power2Round(t)`, `z = y + c s1`:
    `NTT^-1(A_hat ∘ NTT(z) - NTT(c) ∘ NTT(t1 2^d)) = A y - c s2 + c t0` modulo q -/
theorem verifier_ring_identity (row s1 y : List Impl.Poly) (c s2r : Impl.Poly) (hrow : ∀ a ∈ row, a.length = 256) (hs1 : ∀ u ∈ s1, u.length = 256)
    (hy : ∀ u ∈ y, u.length = 256) (hl1 : y.length = s1.length) (lc : c.length = 256) (ls2 : s2r.length = 256) :
    Impl.CongL (Impl.wRowS row (List.zipWith (fun yp cp => List.zipWith (fun a b => modpm Q (a + b)) yp cp) y (s1.map (Impl.cmul c))) c
        ((Impl.tRowS row s1 s2r).map (fun v => (Spec.power2round v).1)))
      (Impl.zw3 (fun p q r => p - q + r) (Impl.invC (Impl.rowS row y Impl.zeroPoly)) (Impl.cmul c s2r)
        (Impl.cmul c ((Impl.tRowS row s1 s2r).map (fun v => (Spec.power2round v).2)))) :=
  Impl.verifier_row row s1 y c s2r hrow hs1 hy hl1 lc ls2

/-- the three parameter sets meet the numeric side conditions of the theorems below -/
theorem c01_params (p : ParamSet) (hp : p ∈ [ml_dsa_44, ml_dsa_65, ml_dsa_87]) :
    (p.gamma2 = 95232 ∨ p.gamma2 = 261888) ∧ p.beta = p.eta * p.tau ∧ p.beta ≤ p.gamma2 ∧ (0 ≤ p.tau ∧ p.tau ≤ 64) ∧ (0 ≤ p.eta ∧ p.eta ≤ 4) := by
  simp only [List.mem_cons, List.mem_nil_iff, or_false] at hp
  rcases hp with rfl | rfl | rfl <;> decide

/-- **an accepted signing attempt passes the verifier's test** (lines 5-13 of Algorithm 8 on the output of lines 11-29 of Algorithm 7) -/
theorem accepted_attempt_verifies (m : Mode) (O : Impl.Oracles) (hO : Impl.OracleOk O) (p : ParamSet)
    (hp : p ∈ [ml_dsa_44, ml_dsa_65, ml_dsa_87])
    (aHat : List (List Impl.Poly)) (s1 s2 : List Impl.Poly)
    (hA : ∀ row ∈ aHat, ∀ a ∈ row, a.length = 256) (hs1 : ∀ u ∈ s1, u.length = 256) (hs2 : ∀ u ∈ s2, u.length = 256)
    (hs2b : ∀ u ∈ s2, ∀ x ∈ u, -p.eta ≤ x ∧ x ≤ p.eta) (hk : aHat.length = s2.length)
    (mu rhoPP : List Nat) (kappa : Int)
    (hyS : ∀ y, Impl.expandMask m O p rhoPP kappa = .ok y → y.length = s1.length ∧ ∀ u ∈ y, u.length = 256)
    (cT : List Nat) (z h : List Impl.Poly)
    (hatt : Impl.attemptSpec m O p s1 s2 ((List.zipWith (fun row s2r => Impl.tRowS row s1 s2r) aHat s2).map (fun q => q.map (fun x => (Spec.power2round x).2)))
      aHat mu rhoPP kappa = .ok (some (cT, z, h))) :
    Impl.verifyCoreS m O p aHat ((List.zipWith (fun row s2r => Impl.tRowS row s1 s2r) aHat s2).map (fun q => q.map (fun x => (Spec.power2round x).1)))
      mu cT z h = .ok true := by
  obtain ⟨hg, hbeta, hbg, htau, heta⟩ := c01_params p hp
  exact Impl.attempt_verifies m O hO p hg hbeta hbg htau heta aHat s1 s2 ⟨hk, hA⟩ ⟨rfl, hs1⟩ ⟨⟨rfl, hs2⟩, hs2b⟩ mu rhoPP kappa hyS cT z h rfl hatt

end Fips204.Props.C01
