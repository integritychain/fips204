import Fips204.Props.C06
/-!
# C06 (continued) — the formatted messages of Algorithms 2-5 **as the standard writes them** never coincide across interpretations

`Spec.sign` / `Spec.verify` hand `IntegerToBytes(0,1) ‖ IntegerToBytes(|ctx|,1) ‖ ctx ‖ M` to the internal algorithms, `Spec.hashSign` /
`Spec.hashVerify` hand `IntegerToBytes(1,1) ‖ IntegerToBytes(|ctx|,1) ‖ ctx ‖ OID ‖ PH_M` (`Spec/MlDsa.lean`).  For contexts of at most 255 bytes
(the only ones for which the algorithms get that far):

* `pure_format_injective_as_written` — the pure format determines `(ctx, M)`;
* `pure_and_hash_formats_differ_as_written` — a pure format never equals a pre-hash format;
* `hash_format_injective_as_written` — the pre-hash format determines `(ctx, OID, PH_M)` for OIDs of equal length (the three OIDs have 11 bytes).

These are `fmtPure_injective`, `fmtPure_ne_fmtHash`, `fmtHash_injective` (C06) read on the literal transcription: with `|ctx| ≤ 255` the length
byte `|ctx| mod 256` is `|ctx|`.
-/
namespace Fips204.Props.C06
open Fips204 Fips204.Gen Fips204.Impl

theorem pure_format_injective_as_written (ctx ctx' M M' : List Nat) (hc : ctx.length ≤ 255) (hc' : ctx'.length ≤ 255)
    (h : [0] ++ [ctx.length % 256] ++ ctx ++ M = [0] ++ [ctx'.length % 256] ++ ctx' ++ M') : ctx = ctx' ∧ M = M' := by
  rw [Nat.mod_eq_of_lt (by omega), Nat.mod_eq_of_lt (by omega)] at h
  exact fmtPure_injective ctx ctx' M M' h

theorem pure_and_hash_formats_differ_as_written (ctx ctx' M oid phm : List Nat) :
    [0] ++ [ctx.length % 256] ++ ctx ++ M ≠ [1] ++ [ctx'.length % 256] ++ ctx' ++ oid ++ phm := by
  simp

theorem hash_format_injective_as_written (ctx ctx' oid oid' phm phm' : List Nat) (hc : ctx.length ≤ 255) (hc' : ctx'.length ≤ 255)
    (ho : oid.length = oid'.length)
    (h : [1] ++ [ctx.length % 256] ++ ctx ++ oid ++ phm = [1] ++ [ctx'.length % 256] ++ ctx' ++ oid' ++ phm') :
    ctx = ctx' ∧ oid = oid' ∧ phm = phm' := by
  rw [Nat.mod_eq_of_lt (by omega), Nat.mod_eq_of_lt (by omega)] at h
  exact fmtHash_injective ctx ctx' oid oid' phm phm' ho h

/-- the three OIDs of `Spec.oidAndDigest` have the same length and are pairwise different -/
theorem spec_oids_distinct_same_length (s256 s512 : List Nat → List Nat) (G : List Nat → Nat → List Nat) (M : List Nat) :
    (∀ ph, (Spec.oidAndDigest s256 s512 G M ph).1.length = 11) ∧
    (∀ ph ph', (Spec.oidAndDigest s256 s512 G M ph).1 = (Spec.oidAndDigest s256 s512 G M ph').1 → ph = ph') := by
  constructor
  · intro ph; cases ph <;> rfl
  · intro ph ph' h
    cases ph <;> cases ph' <;> first | rfl | (exfalso; revert h; simp [Spec.oidAndDigest])

end Fips204.Props.C06
