import Fips204.Props.C12
/-!
# C03 — signatures are byte-identical to FIPS 204 Sign for the drawn rnd

Proved here (for all inputs and all oracles): the *external* layer - context guard, one 32-byte draw,
and the formatted message M' with its domain byte, one-byte context length, OID table and digest
lengths - is exactly Algorithms 2 and 4 around `signInternal`; and the signature is a function of
(private key, message, context, mode, rnd) only.  `signInternal` = Algorithm 7 is `signing_is_algorithm_7` in
`Props/C03b` (exact arithmetic) and `sign_internal_is_Sign_internal_as_written` in `Props/C03d` (the standard as written).
-/
namespace Fips204.Props.C03
open Fips204 Fips204.Gen Fips204.Impl

/-- the message representative of the pure path hashes `tr ‖ M'` with M' of Algorithm 2 line 10 -/
theorem mu_pure_is_fips (O : Oracles) (tr msg ctx : List Nat) (h : ctx.length ≤ 255) :
    muOf O domPure_sign domHash_sign tr msg ctx [] [] false = O.h (tr ++ Spec.fmtPure ctx msg) 64 := by
  rw [muOf_formatted O domPure_sign domHash_sign rfl rfl, formatted_pure, Nat.mod_eq_of_lt (by omega)]
  rfl

/-- the message representative of the pre-hash path hashes `tr ‖ M'` with M' of Algorithm 4 line 23 -/
theorem mu_hash_is_fips (O : Oracles) (tr msg ctx oid phm : List Nat) (h : ctx.length ≤ 255) (ho : oid ≠ []) :
    muOf O domPure_sign domHash_sign tr msg ctx oid phm false = O.h (tr ++ Spec.fmtHash ctx oid phm) 64 := by
  have : oid.isEmpty = false := by cases oid <;> simp_all
  rw [muOf_formatted O domPure_sign domHash_sign rfl rfl, formatted_hash _ _ _ _ this, Nat.mod_eq_of_lt (by omega)]
  rfl

/-- the verifier builds the same representative (same domain bytes and length byte on both sides) -/
theorem mu_same_on_both_sides : domPure_sign = domPure_verify ∧ domHash_sign = domHash_verify := by decide

theorem take_pad (l : List Nat) (n k : Nat) (h : l.length = n) : (l.take n ++ List.replicate k 0).take n = l :=
  take_pad_take l n k h

/-- `hash_message` is the OID / digest table of Algorithm 4 (right OID bytes, digest neither truncated nor padded) -/
theorem hashMessage_is_fips (O : Oracles) (hO : Spec.WF O) (msg : List Nat) (ph : Ph) :
    hashMessage O msg ph = Spec.prehash O msg ph :=
  hashMessage_is_spec O hO msg ph

/-- ML-DSA.Sign (Algorithm 2) around the internal function: for |ctx| ≤ 255 and a successful 32-byte draw -/
theorem sign_is_alg2_wrapper (m : Mode) (O : Oracles) (p : ParamSet) (fuel : Nat) (sk : PrivateKey)
    (msg ctx rnd : List Nat) (rest : List RngResp) (hc : ctx.length ≤ 255) (h : rnd.length = 32) :
    sign m O p fuel sk msg ctx (RngResp.ok rnd :: rest) =
      (do let s ← signInternal m O CTEST_default p fuel sk msg ctx [] [] rnd false; pure (.ok s, [.tryFill 32])) :=
  C12.sign_uses_all_drawn_bytes m O p fuel sk msg ctx rnd rest hc h

/-- HashML-DSA.Sign (Algorithm 4) around the internal function -/
theorem hashSign_is_alg4_wrapper (m : Mode) (O : Oracles) (p : ParamSet) (fuel : Nat) (sk : PrivateKey)
    (msg ctx rnd : List Nat) (ph : Ph) (rest : List RngResp) (hc : ctx.length ≤ 255) (h : rnd.length = 32) :
    hashSign m O p fuel sk msg ctx ph (RngResp.ok rnd :: rest) =
      (do let s ← signInternal m O CTEST_default p fuel sk msg ctx (hashMessage O msg ph).1 (hashMessage O msg ph).2 rnd false
          pure (.ok s, [.tryFill 32])) := by
  rw [hashSign_eq, if_neg (by omega), drawn_eq rnd rest 32 h (by decide)]

/-- the unused tail of the generator's script has no influence: the signature is a function of
    (sk, message, context, rnd) and of nothing else -/
theorem sign_ignores_rest_of_script (m : Mode) (O : Oracles) (p : ParamSet) (fuel : Nat) (sk : PrivateKey)
    (msg ctx rnd : List Nat) (r1 r2 : List RngResp) (hc : ctx.length ≤ 255) (h : rnd.length = 32) :
    sign m O p fuel sk msg ctx (RngResp.ok rnd :: r1) = sign m O p fuel sk msg ctx (RngResp.ok rnd :: r2) := by
  rw [sign_is_alg2_wrapper m O p fuel sk msg ctx rnd r1 hc h, sign_is_alg2_wrapper m O p fuel sk msg ctx rnd r2 hc h]

/-- **the two rejection tests of the signing loop, as written in `sign_internal` (regenerated from the source on every
    run), are those of Algorithm 7 lines 23 and 28** - in particular a candidate with exactly `omega` hints is kept, one
    with `‖z‖∞ = gamma1 - beta` is rejected - and they are the tests the model's `signAttempt` applies -/
theorem sign_rejection_tests_are_algorithm_7 (zn r0n ct0n hsum g1 g2 beta omega : Int) :
    signReject1 zn r0n g1 g2 beta = (decide (zn ≥ g1 - beta) || decide (r0n ≥ g2 - beta)) ∧
    signReject2 ct0n hsum g2 omega = (decide (ct0n ≥ g2) || decide (hsum > omega)) := ⟨rfl, rfl⟩

end Fips204.Props.C03
