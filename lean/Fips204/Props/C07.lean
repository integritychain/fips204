import Fips204.Lemmas.Api
/-!
# C07 — the 255-byte context limit is enforced without aliasing

The guards are `Gen.*CtxGuard`, translated from the `ensure!`/`if` expressions of `src/lib.rs` on
every run, so `< 256` → `<= 256` or `> 255` → `> 256` changes the term under these theorems.
-/
namespace Fips204.Props.C07
open Fips204 Fips204.Gen Fips204.Impl

/-- signing with a context longer than 255 bytes: `Err`, no RNG request, no signature (all lengths) -/
theorem sign_rejects_long_ctx (m : Mode) (O : Oracles) (p : ParamSet) (fuel : Nat) (sk : PrivateKey)
    (msg ctx : List Nat) (script : List RngResp) (h : ctx.length > 255) :
    sign m O p fuel sk msg ctx script = .ok (.error .ctx, []) := by
  rw [sign_eq, if_pos h]

theorem hashSign_rejects_long_ctx (m : Mode) (O : Oracles) (p : ParamSet) (fuel : Nat) (sk : PrivateKey)
    (msg ctx : List Nat) (ph : Ph) (script : List RngResp) (h : ctx.length > 255) :
    hashSign m O p fuel sk msg ctx ph script = .ok (.error .ctx, []) := by
  rw [hashSign_eq, if_pos h]

theorem internalSign_rejects_long_ctx (m : Mode) (O : Oracles) (p : ParamSet) (fuel : Nat) (sk : PrivateKey)
    (msg ctx rnd : List Nat) (h : ctx.length > 255) :
    internalSign m O p fuel sk msg ctx rnd = .ok (.error .ctx) := by
  rw [internalSign_eq, if_pos h]

/-- verification with a context longer than 255 bytes returns false (all lengths, any key, any signature) -/
theorem verify_rejects_long_ctx (m : Mode) (O : Oracles) (p : ParamSet) (pk : PublicKey)
    (msg sig ctx : List Nat) (h : ctx.length > 255) :
    verify m O p pk msg sig ctx = .ok false := by
  rw [verify_eq, if_pos h]

theorem hashVerify_rejects_long_ctx (m : Mode) (O : Oracles) (p : ParamSet) (pk : PublicKey)
    (msg sig ctx : List Nat) (ph : Ph) (h : ctx.length > 255) :
    hashVerify m O p pk msg sig ctx ph = .ok false := by
  rw [hashVerify_eq, if_pos h]

theorem internalVerify_rejects_long_ctx (m : Mode) (O : Oracles) (p : ParamSet) (pk : PublicKey)
    (msg sig ctx : List Nat) (h : ctx.length > 255) :
    internalVerify m O p pk msg sig ctx = .ok false := by
  rw [internalVerify_eq, if_pos h]

/-- every context of 0..255 bytes passes the guards: signing proceeds to the randomness request and to
    `signInternal`, verification to `verifyInternal` (so nothing at or below 255 is ever rejected as too long) -/
theorem sign_accepts_short_ctx (m : Mode) (O : Oracles) (p : ParamSet) (fuel : Nat) (sk : PrivateKey)
    (msg ctx : List Nat) (script : List RngResp) (h : ctx.length ≤ 255) (log : List RngCall) :
    sign m O p fuel sk msg ctx script ≠ .ok (.error .ctx, log) := by
  rw [sign_eq, if_neg (by omega)]
  cases drawn 32 script with
  | none => exact fun e => nomatch e
  | some rnd =>
    dsimp only
    cases signInternal m O CTEST_default p fuel sk msg ctx [] [] rnd false with
    | error e => rw [error_bind]; exact fun e => nomatch e
    | ok s => rw [ok_bind, pure_eq]; exact fun e => nomatch e

theorem verify_accepts_short_ctx (m : Mode) (O : Oracles) (p : ParamSet) (pk : PublicKey)
    (msg sig ctx : List Nat) (h : ctx.length ≤ 255) :
    verify m O p pk msg sig ctx = verifyInternal m O CTEST_default p pk msg sig ctx [] [] false := by
  rw [verify_eq, if_neg (by omega)]

theorem hashVerify_accepts_short_ctx (m : Mode) (O : Oracles) (p : ParamSet) (pk : PublicKey)
    (msg sig ctx : List Nat) (ph : Ph) (h : ctx.length ≤ 255) :
    hashVerify m O p pk msg sig ctx ph =
      verifyInternal m O CTEST_default p pk msg sig ctx (hashMessage O msg ph).1 (hashMessage O msg ph).2 false := by
  rw [hashVerify_eq, if_neg (by omega)]

/-- the one-byte length field is injective exactly on the accepted range ... -/
theorem ctxLenByte_injective (a b : Nat) (ha : a ≤ 255) (hb : b ≤ 255) (h : ctxLenByte a = ctxLenByte b) : a = b := by
  unfold ctxLenByte at h; omega

/-- ... and wraps beyond it (256 aliases 0, 257 aliases 1): this is why the guards are load-bearing -/
theorem ctxLenByte_wraps : ctxLenByte 256 = ctxLenByte 0 ∧ ctxLenByte 257 = ctxLenByte 1 ∧ ctxLenByte 512 = ctxLenByte 0 := by
  decide

/-! non-vacuity: the hypotheses are met by concrete contexts on both sides of the limit -/
example : (List.replicate 256 (0 : Nat)).length > 255 := by rw [List.length_replicate]; omega
example : (List.replicate 255 (0 : Nat)).length ≤ 255 := by rw [List.length_replicate]; omega

end Fips204.Props.C07
