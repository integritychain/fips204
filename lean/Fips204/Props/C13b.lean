import Fips204.Lemmas.Api
import Fips204.Lemmas.VerifyOk
/-!
# C13 (continued) — the whole verification path never panics

`expand_public` + `verify` / `hash_verify` / `_internal_verify`, for **every** byte string of public-key length, **every**
byte string of signature length, every message, context and pre-hash function, every hash oracle that returns the
number of bytes asked for, each of them below 256 (`OracleOk`), in both build modes: the result is a Boolean.  The only other outcome the *model* has is
`Fault.fuel` (its samplers read a finite prefix of the XOF stream; the crate squeezes without bound), which is not a
crate behaviour.  Composition of: `sig_decode` never faults (accumulator invariant of `bit_unpack`, index discipline of
`hint_bit_unpack`), `sample_in_ball`'s two Hamming-weight assertions always hold, `rej_ntt_poly` yields canonical
coefficients, the lazy NTT pipeline cannot overflow (C18), `use_hint` stays inside `w1_encode`'s asserted range, and
`simple_bit_pack` fills exactly its output slice.
-/
namespace Fips204.Props.C13
open Fips204 Fips204.Gen Fips204.Impl

theorem verCfg_of_mem (p : ParamSet) (hp : p ∈ [ml_dsa_44, ml_dsa_65, ml_dsa_87]) : ∃ blz, VerCfg p blz := by
  obtain ⟨blz, _, c⟩ := paramCfg_of_mem .release p hp
  exact ⟨blz, c.ver⟩

/-- the three external verification entry points on a well-formed public-key struct and any signature bytes -/
theorem verify_entry_points_never_panic (m : Mode) (O : Oracles) (hO : OracleOk O) (p : ParamSet)
    (hp : p ∈ [ml_dsa_44, ml_dsa_65, ml_dsa_87]) (pk : PublicKey) (hpk : PkOk p pk) (msg sig ctx : List Nat) (ph : Ph)
    (hb : ∀ x ∈ sig, x < 256) (hlen : sig.length = p.sigLen) :
    NoPanic (verify m O p pk msg sig ctx) (fun _ => True) ∧ NoPanic (hashVerify m O p pk msg sig ctx ph) (fun _ => True) ∧
    NoPanic (internalVerify m O p pk msg sig ctx) (fun _ => True) := by
  obtain ⟨blz, cfg⟩ := verCfg_of_mem p hp
  refine ⟨?_, ?_, ?_⟩
  · rw [verify_eq]
    exact NoPanic.ite (NoPanic.ok _ trivial) (verifyInternal_np m O hO _ p blz cfg pk hpk msg sig ctx [] [] false hb hlen)
  · rw [hashVerify_eq]
    exact NoPanic.ite (NoPanic.ok _ trivial) (verifyInternal_np m O hO _ p blz cfg pk hpk msg sig ctx _ _ false hb hlen)
  · rw [internalVerify_eq]
    exact NoPanic.ite (NoPanic.ok _ trivial) (verifyInternal_np m O hO _ p blz cfg pk hpk msg sig ctx [] [] true hb hlen)

/-- **hostile bytes end to end**: any public-key bytes deserialise to a struct on which any signature bytes verify to a
    Boolean without a panic -/
theorem verification_path_never_panics (m : Mode) (O : Oracles) (hO : OracleOk O) (p : ParamSet)
    (hp : p ∈ [ml_dsa_44, ml_dsa_65, ml_dsa_87]) (pkb msg sig ctx : List Nat) (ph : Ph)
    (hpb : ∀ x ∈ pkb, x < 256) (hpl : pkb.length = p.pkLen) (hb : ∀ x ∈ sig, x < 256) (hlen : sig.length = p.sigLen) :
    ∃ pk, expandPublic m O p pkb = .ok (some pk) ∧
      NoPanic (verify m O p pk msg sig ctx) (fun _ => True) ∧ NoPanic (hashVerify m O p pk msg sig ctx ph) (fun _ => True) ∧
      NoPanic (internalVerify m O p pk msg sig ctx) (fun _ => True) := by
  have hcfg := pkLen_of_mem p hp
  obtain ⟨pk, h1, h2⟩ := expandPublic_pkOk m O p pkb hpb (by rw [hpl, hcfg]) hcfg
  exact ⟨pk, h1, verify_entry_points_never_panic m O hO p hp pk h2 msg sig ctx ph hb hlen⟩

/-- non-vacuity: the hypotheses are satisfiable - a constant oracle meets `OracleOk`, and the all-zero strings have the
    right lengths -/
example : OracleOk { h := fun _ n => List.replicate n 0, g := fun _ n => List.replicate n 0, sha256 := fun _ => [], sha512 := fun _ => [] } :=
  ⟨fun _ n => List.length_replicate .., fun _ n b hb => by rw [List.eq_of_mem_replicate hb]; decide,
   fun _ n => List.length_replicate .., fun _ n b hb => by rw [List.eq_of_mem_replicate hb]; decide⟩

end Fips204.Props.C13
