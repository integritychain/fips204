import Fips204.Props.C10b
/-!
# C10 (continued) — private-key deserialisation is FIPS 204 Algorithm 25 **as the standard writes it**, plus the range check

`Spec.skDecode` (`Spec/Codec.lean`) transcribes Algorithm 25 on the bit-string `BitUnpack` of Algorithm 19 and mentions nothing of the crate.
The standard remarks that for input that does not come from a trusted source `s1`, `s2` may fall outside `[-eta, eta]` and must be checked.

* `sk_decode_is_skDecode_with_the_range_check` — for every byte string of private-key length (eta in {2, 4}), in both build modes and never
  with a fault: `sk_decode` returns `Ok` **iff** every coefficient of the standard's `s1` and `s2` lies in `[-eta, eta]`, and then returns
  exactly the standard's `(rho, K, tr, s1, s2, t0)`.

This is the literal-specification counterpart of `sk_decode_accepts_exactly_the_in_range_keys` (C10b, stated on packed fields).
-/
namespace Fips204.Props.C10
open Fips204 Fips204.Gen Fips204.Impl

theorem sk_decode_is_skDecode_with_the_range_check (m : Mode) (p : ParamSet) (skb : List Nat) (hb : ∀ x ∈ skb, x < 256)
    (he : p.eta = 2 ∨ p.eta = 4) (bl : Nat) (hbl : bitLen m (2 * p.eta) = .ok bl)
    (hlen : skb.length = 128 + 32 * ((p.k + p.l) * bl + D.toNat * p.k)) (hcfg : p.skLen = skb.length) :
    skDecode m p skb = .ok (
      let d := Spec.skDecode bl p.eta p.k p.l skb
      if Spec.allInRange p.eta p.eta d.2.2.2.1 && Spec.allInRange p.eta p.eta d.2.2.2.2.1
      then some { rho := d.1, key := d.2.1, tr := d.2.2.1, s1 := d.2.2.2.1, s2 := d.2.2.2.2.1, t0 := d.2.2.2.2.2 } else none) :=
  skDecode_is_algorithm_25 m p skb (fun x hx => hb x (List.mem_of_mem_drop hx)) he bl hbl hlen hcfg

/-- the hypotheses hold for the three parameter sets (configuration facts, by evaluation) -/
example (m : Mode) (p : ParamSet) (hp : p ∈ [ml_dsa_44, ml_dsa_65, ml_dsa_87]) :
    ∃ bl, (p.eta = 2 ∨ p.eta = 4) ∧ bitLen m (2 * p.eta) = .ok bl ∧ p.skLen = 128 + 32 * ((p.k + p.l) * bl + D.toNat * p.k) :=
  sk_config m p hp

/-- the standard's `BitUnpack` on a field above `2 eta` gives a coefficient below `-eta` (a test, labelled as a test): field 7, eta = 2 -/
example : (Spec.bitUnpack 3 2 ([7] ++ List.replicate 95 0)).head? = some (-5) := by decide +kernel

end Fips204.Props.C10
