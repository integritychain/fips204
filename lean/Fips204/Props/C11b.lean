import Fips204.Props.C10b
import Fips204.Props.C13d
/-!
# C11 (continued) — the derived public key *is* the generated one

`derived_public_key_is_the_generated_one`: for each parameter set and every seed, whenever key generation returns a
pair `(pk, sk)`: `private_to_public_key(sk) = pk` as structs (same `rho`, same `tr`, same verifier precompute,
coefficient by coefficient), and the same holds for the private key after a serialisation round trip (which is the same
struct, C09).  Equal structs serialise to the same bytes and make the same verification decision on every input, and
with C09 (deserialising the generated key's bytes gives the same struct again) public keys obtained by generation,
deserialisation and derivation are interchangeable.

Proof (`privateToPublicKey_eq` in `Lemmas/KeygenSpec`, over `Lemmas/MatVec`, `Lemmas/NttBounds`): the derivation recomputes `t = A s1 + s2` from the stored NTT-domain vectors;
`mont_reduce(to_mont(x)) ≡ x (mod q)`, so its `s1_hat` is congruent to the one key generation used; `mat_vec_mul` sends
congruent vectors to congruent vectors (it is a pure function inside its overflow envelope, and `montv` is
multiplication by `2^-32` mod q); the inverse transform returns canonical residues, so congruent inputs give *equal*
outputs; `s2` is recovered exactly (C09); the remaining steps are the same functions of the same values.
-/
namespace Fips204.Props.C11
open Fips204 Fips204.Gen Fips204.Impl

theorem derived_public_key_is_the_generated_one (m : Mode) (O : Oracles) (hO : OracleOk O) (p : ParamSet)
    (hp : p ∈ [ml_dsa_44, ml_dsa_65, ml_dsa_87]) (xi : List Nat) :
    NoPanic (keygenFromSeed m O p xi) (fun kp => privateToPublicKey m O p kp.2 = .ok kp.1 ∧
      ∃ skb, skIntoBytes m p kp.2 = .ok skb ∧ ∃ sk', expandPrivate m p skb = .ok (some sk') ∧ privateToPublicKey m O p sk' = .ok kp.1) := by
  obtain ⟨bl, he, hbl, hcfg⟩ := Fips204.Props.C10.sk_config m p hp
  obtain ⟨_, hl7, hpcfg⟩ := Fips204.Props.C13.keyCfg_of_mem p hp
  refine (Fips204.Props.C13.keygen_never_panics m O hO p hp xi []).1.mono (fun kp hg => ?_)
  have hd := derive_eq_generated m O p hl7 he kp hg
  obtain ⟨pkb, skb, _, _, _, h4, _, h6⟩ := gen_roundtrip_struct m O p he bl hbl hcfg hpcfg kp hg
  exact ⟨hd, skb, h4, kp.2, h6, hd⟩

end Fips204.Props.C11
