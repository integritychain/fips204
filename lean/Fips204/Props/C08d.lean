import Fips204.Lemmas.SpecRoundTrip
/-!
# C08 (continued) — the signature codec of the standard, as transcribed, is a bijection

About `Spec.sigEncode` / `Spec.sigDecode` alone (`Lemmas/SpecRoundTrip`; the hint section through the closed forms of the hint codec),
for each row of Table 1:

* `sigDecode_after_sigEncode_as_written` — `sigDecode(sigEncode(c~, z, h)) = (c~, z, h)` for every commitment hash of `lambda/4` bytes, every
  response in `(-gamma1, gamma1]` and every hint vector of weight at most omega;
* `sigEncode_after_sigDecode_as_written` — every byte string of signature length that `sigDecode` does not reject (`h ≠ ⊥`) is reproduced byte
  for byte by `sigEncode` of what it decodes to: no two byte strings are read as the same signature (uses: a decoded hint vector has weight at
  most omega, `spec_hintBitUnpack_weight`).
-/
namespace Fips204.Props.C08
open Fips204 Fips204.Gen Fips204.Impl

/-- **`HintBitUnpack(HintBitPack(h)) = h`** on `Spec/*` alone: for every vector of `k` 0/1 polynomials with at most `omega` ones (`omega + k < 256`,
    as in all three parameter sets) -/
theorem hintBitUnpack_after_hintBitPack_as_written (omega k : Nat) (h : List Poly) (hok : 1 ≤ omega + k ∧ omega + k < 256)
    (hl : h.length = k) (hb : ∀ q ∈ h, Bin q) (hsum : onesAll h ≤ omega) :
    Spec.hintBitUnpack omega k (Spec.hintBitPack omega h) = some h :=
  (spec_hintBitUnpack_hintBitPack omega k h hok.2 hl hb hsum).2.2

/-- **`HintBitPack(HintBitUnpack(y)) = y`** on `Spec/*` alone: every hint section Algorithm 21 does not reject is the canonical encoding of what
    it decodes to -/
theorem hintBitPack_after_hintBitUnpack_as_written (omega k : Nat) (y : List Nat) (hok : 1 ≤ omega + k ∧ omega + k < 256)
    (hy : ∀ b ∈ y, b < 256) (hlen : y.length = omega + k) (h : List Poly) (hd : Spec.hintBitUnpack omega k y = some h) :
    Spec.hintBitPack omega h = y :=
  (spec_hintBitUnpack_inv omega k y hok.2 hy hlen h hd).2.2.2

theorem sigDecode_after_sigEncode_as_written (p : ParamSet) (hp : p ∈ [ml_dsa_44, ml_dsa_65, ml_dsa_87]) (blz : Nat) (cfg : SigCfg p blz)
    (ct : List Nat) (z h : List Poly) (hcb : ∀ b ∈ ct, b < 256) (hct : ct.length = p.lambdaDiv4) (hz : Sh p.l z)
    (hzr : ∀ q ∈ z, ∀ c ∈ q, -(p.gamma1 - 1) ≤ c ∧ c ≤ p.gamma1) (hh : Sh p.k h) (hb : ∀ q ∈ h, Bin q)
    (hsum : onesAll h ≤ p.omega.toNat) :
    Spec.sigDecode p.lambdaDiv4 p.l p.k p.omega.toNat blz p.gamma1 (Spec.sigEncode blz p.gamma1 p.omega.toNat ct z h) = (ct, z, some h) := by
  have hpow := cfg.pow
  exact spec_sigDecode_sigEncode p.lambdaDiv4 p.l p.k p.omega.toNat blz p.gamma1 cfg.gamma1_gt.1 (by omega) cfg.omk ct z h hct ⟨hz, hzr⟩ hh.1 hb hsum

theorem sigEncode_after_sigDecode_as_written (p : ParamSet) (hp : p ∈ [ml_dsa_44, ml_dsa_65, ml_dsa_87]) (blz : Nat) (cfg : SigCfg p blz)
    (sigma : List Nat) (hb : ∀ x ∈ sigma, x < 256) (hlen : sigma.length = p.sigLen) (h : List Poly)
    (hd : (Spec.sigDecode p.lambdaDiv4 p.l p.k p.omega.toNat blz p.gamma1 sigma).2.2 = some h) :
    Spec.sigEncode blz p.gamma1 p.omega.toNat (Spec.sigDecode p.lambdaDiv4 p.l p.k p.omega.toNat blz p.gamma1 sigma).1
      (Spec.sigDecode p.lambdaDiv4 p.l p.k p.omega.toNat blz p.gamma1 sigma).2.1 h = sigma := by
  exact spec_sigEncode_sigDecode p.lambdaDiv4 p.l p.k p.omega.toNat blz p.gamma1 cfg.omk sigma hb (hlen.trans cfg.len) h hd

/-- **no two signature strings are read as the same signature by Algorithm 27**: two byte strings of signature length that are both accepted and
    decode to the same `(c~, z, h)` are equal -/
theorem sigDecode_injective_as_written (p : ParamSet) (hp : p ∈ [ml_dsa_44, ml_dsa_65, ml_dsa_87]) (blz : Nat) (cfg : SigCfg p blz)
    (s1 s2 : List Nat) (hb1 : ∀ x ∈ s1, x < 256) (hl1 : s1.length = p.sigLen) (hb2 : ∀ x ∈ s2, x < 256) (hl2 : s2.length = p.sigLen)
    (h : List Poly) (hd1 : (Spec.sigDecode p.lambdaDiv4 p.l p.k p.omega.toNat blz p.gamma1 s1).2.2 = some h)
    (he : Spec.sigDecode p.lambdaDiv4 p.l p.k p.omega.toNat blz p.gamma1 s1 = Spec.sigDecode p.lambdaDiv4 p.l p.k p.omega.toNat blz p.gamma1 s2) :
    s1 = s2 := by
  have e1 := sigEncode_after_sigDecode_as_written p hp blz cfg s1 hb1 hl1 h hd1
  have e2 := sigEncode_after_sigDecode_as_written p hp blz cfg s2 hb2 hl2 h (by rw [← he]; exact hd1)
  rw [← e1, ← e2, he]

end Fips204.Props.C08
