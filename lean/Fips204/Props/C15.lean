import Fips204.Lemmas.KernelsRound
/-!
# C15 — Coefficient arithmetic is exact on its whole domain

Property theorems only (helper lemmas live in `Fips204/Lemmas`).  Every statement is about the
*generated* definitions of `Fips204.Gen.Kernels` (regenerated from `/repo/src` on every run), is
quantified over **all** inputs in the stated range, and holds for **both** build modes `m`
(checked: no `debug_assert!`/overflow fault; release: the same value).
-/
namespace Fips204.Props.C15
open Fips204 Fips204.Gen Fips204.K

/-- `partial_reduce32`: congruent to its input and strictly inside (-q, q) on the documented domain -/
theorem partial_reduce32_spec (m : Mode) (a : Int) (h1 : -2143289344 < a) (h2 : a < 2143289344) :
    ∃ r, partial_reduce32 m a = .ok r ∧ (r - a) % Q = 0 ∧ -Q < r ∧ r < Q :=
  ⟨pr32 a, partial_reduce32_eq m a h1 h2, (pr32_spec a h1 h2).1, (pr32_spec a h1 h2).2.1, (pr32_spec a h1 h2).2.2⟩

/-- `full_reduce32` is `a mod q` -/
theorem full_reduce32_spec (m : Mode) (a : Int) (h1 : -2143289344 < a) (h2 : a < 2143289344) :
    full_reduce32 m a = .ok (a % Q) := full_reduce32_eq m a h1 h2

/-- `center_mod` is FIPS 204 `mod±` -/
theorem center_mod_spec (m : Mode) (a : Int) (h1 : -2143289344 < a) (h2 : a < 2143289344) :
    center_mod m a = .ok (modpm Q a) := center_mod_eq m a h1 h2

/-- `mont_reduce` (Algorithm 49): `r·2^32 ≡ a (mod q)`, `-q < r < q`, on the asserted input range -/
theorem mont_reduce_spec (m : Mode) (a : Int) (h1 : -17996808479301632 ≤ a) (h2 : a ≤ 17996808470921215) :
    ∃ r, mont_reduce m a = .ok r ∧ (r * 4294967296 - a) % Q = 0 ∧ -Q < r ∧ r < Q :=
  ⟨montv a, mont_reduce_eq m a h1 h2, (montv_spec a h1 h2).1, (montv_spec a h1 h2).2.1, (montv_spec a h1 h2).2.2⟩

/-- the 64-bit Barrett-style reduction on its caller's shape `x << 32`, for **every** |x| below the documented bound
    67 058 539: congruent and inside (-2q, 2q).  The bound is tight: at x = 67 058 537 the intermediate `a2` that is multiplied by
    `M = 33587228` comes within 118 of `⌊(2^63 - 1) / M⌋ = 274 609 504 447` (`K.pr64_a2_fits`), and x = 67 058 539 overflows `i64`. -/
theorem partial_reduce64_spec (m : Mode) (x : Int) (h1 : -67058539 < x) (h2 : x < 67058539) :
    ∃ r, to_mont_coeff m x = .ok r ∧ (r - x * 4294967296) % Q = 0 ∧ -(2 * Q) < r ∧ r < 2 * Q := by
  obtain ⟨hc, hl, hu⟩ := pr64s_spec x h1 h2
  exact ⟨pr64s x, to_mont_coeff_eq m x h1 h2, hc, by simp only [Q]; omega, by simp only [Q]; omega⟩

/-- Power2Round (Algorithm 35) on Z_q, and the crate's reconstruction self-check holds -/
theorem power2round_spec (m : Mode) (r : Int) (h0 : 0 ≤ r) (h1 : r < Q) :
    (do let r1 ← power2round_r1 m r; let r0 ← power2round_r0 m r r1; pure (r1, r0)) = .ok (Spec.power2round r)
    ∧ power2round_check m r (Spec.power2round r).1 (Spec.power2round r).2 = .ok true :=
  ⟨power2round_eq m r h0 h1, power2round_check_eq m r h0 h1⟩

/-- Decompose (Algorithm 36), including the `r+ - r0 = q - 1` corner, for both gamma2 and every i32 in range -/
theorem decompose_spec (m : Mode) (g r : Int) (hg : g = 95232 ∨ g = 261888)
    (h1 : -2143289344 < r) (h2 : r < 2143289344) :
    decompose m g r = .ok (Spec.decompose g r) := decompose_eq m g r hg h1 h2

theorem high_bits_spec (m : Mode) (g r : Int) (hg : g = 95232 ∨ g = 261888)
    (h1 : -2143289344 < r) (h2 : r < 2143289344) :
    high_bits m g r = .ok (Spec.highBits g r) := high_bits_eq m g r hg h1 h2

theorem low_bits_spec (m : Mode) (g r : Int) (hg : g = 95232 ∨ g = 261888)
    (h1 : -2143289344 < r) (h2 : r < 2143289344) :
    low_bits m g r = .ok (Spec.lowBits g r) := low_bits_eq m g r hg h1 h2

/-- MakeHint (Algorithm 39) on the caller's shape (`r`, `r + z` inside the reduction domain) -/
theorem make_hint_spec (m : Mode) (g z r : Int) (hg : g = 95232 ∨ g = 261888)
    (h1 : -2143289344 < r) (h2 : r < 2143289344) (h3 : -2143289344 < r + z) (h4 : r + z < 2143289344) :
    make_hint m g z r = .ok (Spec.makeHint g z r) := make_hint_eq m g z r hg h1 h2 h3 h4

/-- UseHint (Algorithm 40), with the wrap at m = 44 resp. 16 -/
theorem use_hint_spec (m : Mode) (g h r : Int) (hg : g = 95232 ∨ g = 261888) (hh : h = 0 ∨ h = 1)
    (h1 : -2143289344 < r) (h2 : r < 2143289344) :
    use_hint m g h r = .ok (Spec.useHint g h r) := use_hint_eq m g h r hg hh h1 h2

/-- CoeffFromThreeBytes (Algorithm 14) for all 2^24 inputs -/
theorem coeff_from_three_bytes_spec (m : Mode) (b0 b1 b2 : Int) (h0 : 0 ≤ b0 ∧ b0 ≤ 255)
    (h1 : 0 ≤ b1 ∧ b1 ≤ 255) (h2 : 0 ≤ b2 ∧ b2 ≤ 255) :
    coeff_from_three_bytes m false b0 b1 b2 = .ok (Spec.coeffFromThreeBytes b0 b1 b2) :=
  coeff3_eq m b0 b1 b2 h0 h1 h2

/-- in constant-time test mode the sampler never rejects (no data-dependent loop exit) -/
theorem coeff_from_three_bytes_ctest (m : Mode) (b0 b1 b2 : Int) (h0 : 0 ≤ b0 ∧ b0 ≤ 255)
    (h1 : 0 ≤ b1 ∧ b1 ≤ 255) (h2 : 0 ≤ b2 ∧ b2 ≤ 255) :
    ∃ z, coeff_from_three_bytes m true b0 b1 b2 = .ok (some z) :=
  ⟨_, coeff3_ctest_some m b0 b1 b2 h0 h1 h2⟩

/-- CoeffFromHalfByte (Algorithm 15) for all 16 inputs and both eta, including the multiply-shift mod 5 -/
theorem coeff_from_half_byte_spec (m : Mode) (eta b : Int) (he : eta = 2 ∨ eta = 4) (hb : 0 ≤ b ∧ b ≤ 15) :
    coeff_from_half_byte m false eta b = .ok (Spec.coeffFromHalfByte eta b) := coeffhalf_eq m eta b he hb

/-! Non-vacuity: concrete points meeting the hypotheses, evaluated. -/
example : (center_mod .checked 4190209).toOption = some (-4190208) := by decide +kernel
example : (mont_reduce .checked 17996808470921215).toOption = some 114592 := by decide +kernel
example : (decompose .checked 95232 8285185).toOption = some (0, -95232) := by decide +kernel
example : (decompose .checked 261888 8118529).toOption = some (0, -261888) := by decide +kernel
example : (use_hint .checked 95232 1 8285185).toOption = some 43 := by decide +kernel
/-- the documented domain is tight: one past the asserted bound the checked build faults, the release build answers -/
example : (mont_reduce .checked 17996808470921216).toOption = none := by decide +kernel
example : (mont_reduce .release 17996808470921216).toOption = some 8380417 := by decide +kernel

end Fips204.Props.C15
