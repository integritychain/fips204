import Fips204.Lemmas.SpecVerify
import Fips204.Props.C02b
/-!
# C02 (continued) — `verify_internal` is FIPS 204 Algorithm 8 **as the standard writes it**

`verification_is_algorithm_8` (C02b) equates the crate's verifier with `verifySpec`: Algorithm 8 written with exact arithmetic over the
model's own transcriptions of the byte-level functions and samplers.  Here the right-hand side is `Spec/*`, a transcription of the
standard that mentions nothing of the crate: Table 1 (`Spec.mlDsa44/65/87`), Algorithms 9-13 (bit/byte conversions), 16-19 (`SimpleBitPack`,
`BitPack`, `SimpleBitUnpack`, `BitUnpack` on explicit bit strings), 20-21 (`HintBitPack`, `HintBitUnpack`), 23 (`pkDecode`),
27 (`sigDecode`), 28 (`w1Encode`), 29 (`SampleInBall`), 30 (`RejNTTPoly`), 32 (`ExpandA`), 35-40 (rounding and hints), 41-42 (`NTT`,
`NTT⁻¹` with the zetas `ζ^{BitRev8(m)} mod q`, as recursion on halves), and Algorithm 8 itself (`Spec.verifyInternal`).

* `verification_is_fips_204_algorithm_8_as_written` — for each parameter set, every oracle, every byte string of public-key length,
  every message / context / pre-hash input and **every byte string of signature length**, in both build modes: `expand_public`
  accepts the key bytes and `verify_internal` on the struct it builds returns exactly the Boolean that `Spec.verifyInternal`
  computes from the bytes (if the finite XOF prefix the model hands to the two rejection samplers is too short, the specification
  says `none` and the model says `Fault.fuel`; the crate squeezes without bound).
* `parameter_sets_are_fips_204_table_1` — the crate's constants (regenerated from the source on every run) are the rows of Table 1.
* the components, each for all inputs: `sample_in_ball_is_SampleInBall`, `expand_a_is_ExpandA`, `sig_decode_is_sigDecode`,
  `pk_decode_is_pkDecode`, `hint_bit_unpack_is_HintBitUnpack`, `w1_encode_is_w1Encode`, `exact_w_approx_is_line_9`.

What remains trusted for C02 after this: that `Spec/*` (about 590 lines, no crate vocabulary) says what FIPS 204 says - compared on
every run with the independent Python transcription through the crate - the recursion-on-halves reading of the two NTT loop nests,
and the tie of the model to the source (translator + correspondence).
-/
namespace Fips204.Props.C02
open Fips204 Fips204.Gen Fips204.Impl

theorem parameter_sets_are_fips_204_table_1 :
    specParams ml_dsa_44 = Spec.mlDsa44 ∧ specParams ml_dsa_65 = Spec.mlDsa65 ∧ specParams ml_dsa_87 = Spec.mlDsa87 := by
  decide

theorem verification_is_fips_204_algorithm_8_as_written (m : Mode) (O : Oracles) (hO : OracleOk O) (p : ParamSet)
    (hp : p ∈ [ml_dsa_44, ml_dsa_65, ml_dsa_87]) (pkb msg sig ctx oid phm : List Nat) (nist : Bool)
    (hpb : ∀ x ∈ pkb, x < 256) (hpl : pkb.length = p.pkLen) (hb : ∀ x ∈ sig, x < 256) (hlen : sig.length = p.sigLen) :
    ∃ pk, expandPublic m O p pkb = .ok (some pk) ∧
      AgreesWith (verifyInternal m O CTEST_default p pk msg sig ctx oid phm nist)
        (Spec.verifyInternal (specParams p) O.h O.g (1680 * O.fuelScale) (8 + 1360 * O.fuelScale) pkb (Spec.formatted nist msg ctx oid phm) sig) := by
  obtain ⟨blz, cfg⟩ := C13.verCfg_of_mem p hp
  have hcfg := pkLen_of_mem p hp
  obtain ⟨pk, d, hexp, hdec, heq⟩ := verification_is_algorithm_8 m O hO p hp pkb msg sig ctx oid phm nist hpb hpl hb hlen
  have hpw : ∀ x ∈ pkb.drop 32, x < 256 := fun x hx => hpb x (List.mem_of_mem_drop hx)
  have hl : pkb.length = 32 + p.k * (32 * 10) := by rw [hpl, hcfg, show blqd = 10 from by decide]; omega
  rw [pkDecode_is_algorithm_23 m p pkb hpw (by rw [hpl, hcfg]) hcfg] at hdec
  cases hdec
  refine ⟨pk, hexp, ?_⟩
  rw [heq, spec_verifyInternal_eq_core]
  exact verifySpec_is_core m O hO p blz cfg _ (O.h pkb 64) _ (by simp [Spec.pkDecode]; omega)
    (spec_pkDecode_in p.k pkb hpw hl) msg sig ctx oid phm nist hb hlen

theorem sample_in_ball_is_SampleInBall (m : Mode) (O : Oracles) (hO : OracleOk O) (tau : Int) (rho : List Nat) (ht : 0 ≤ tau ∧ tau ≤ 64) :
    sampleInBall m O false tau rho =
      ofSpec "hashing.rs:sample_in_ball:stream" (Spec.sampleInBall tau.toNat (O.h rho (8 + 1360 * O.fuelScale))) :=
  sampleInBall_is_algorithm_29 m O hO tau rho ht

theorem expand_a_is_ExpandA (m : Mode) (O : Oracles) (hO : OracleOk O) (p : ParamSet) (rho : List Nat) (hr : rho.length = 32) :
    expandA m O false p rho = ofSpec "hashing.rs:rej_ntt_poly:stream" (Spec.expandA (fun x => O.g x (1680 * O.fuelScale)) p.k p.l rho) :=
  expandA_is_algorithm_32 m O hO p rho hr

theorem sig_decode_is_sigDecode (m : Mode) (p : ParamSet) (blz : Nat) (cfg : SigCfg p blz) (sigma : List Nat) (hb : ∀ x ∈ sigma, x < 256)
    (hlen : sigma.length = p.sigLen) :
    sigDecode m p sigma = .ok (
      let d := Spec.sigDecode p.lambdaDiv4 p.l p.k p.omega.toNat blz p.gamma1 sigma
      match d.2.2 with
      | none => none
      | some h => some (d.1, d.2.1, h)) :=
  sigDecode_is_algorithm_27 m p blz cfg sigma (fun x hx => hb x (List.mem_of_mem_drop hx)) hlen

theorem pk_decode_is_pkDecode (m : Mode) (p : ParamSet) (pk : List Nat) (hb : ∀ x ∈ pk, x < 256)
    (hlen : pk.length = 32 + 32 * p.k * blqd) (hcfg : p.pkLen = 32 + 32 * p.k * blqd) :
    ∃ d : PkParts, pkDecode m p pk = .ok (some d) ∧ (d.rho, d.t1) = Spec.pkDecode p.k pk :=
  ⟨_, pkDecode_is_algorithm_23 m p pk (fun x hx => hb x (List.mem_of_mem_drop hx)) hlen hcfg, rfl⟩

theorem hint_bit_unpack_is_HintBitUnpack (m : Mode) (k : Nat) (omega : Int) (y : List Nat) (hy : ∀ b ∈ y, b < 256)
    (ho : 0 ≤ omega) (hk : 1 ≤ omega.toNat + k ∧ omega.toNat + k < 256) (hlen : y.length = omega.toNat + k) :
    hintBitUnpack m k omega y = .ok (Spec.hintBitUnpack omega.toNat k y) :=
  hintBitUnpack_is_algorithm_21 m k omega y hy ho hk hlen

theorem w1_encode_is_w1Encode (m : Mode) (p : ParamSet)
    (hg : (p.gamma2 = 95232 ∧ p.w1Bits = 6) ∨ (p.gamma2 = 261888 ∧ p.w1Bits = 4)) (w1 : List Poly) (hsh : Sh p.k w1)
    (hr : ∀ q ∈ w1, ∀ x ∈ q, 0 ≤ x ∧ x ≤ (Q - 1) / (2 * p.gamma2) - 1) :
    w1Encode m p w1 p.w1Len = .ok (Spec.w1Encode p.w1Bits w1) :=
  w1Encode_is_algorithm_28 m p hg w1 hsh hr

theorem exact_w_approx_is_line_9 (aHat : List (List Poly)) (z : List Poly) (c : Poly) (t1 : List Poly) :
    wApproxS aHat z c t1 = Spec.wApprox aHat z c t1 :=
  wApproxS_is_spec aHat z c t1

/-- the standard's functions evaluated on concrete values (tests, labelled as tests): an all-zero hint section decodes to the zero hint;
    a count above omega is rejected; the zetas of the first layers -/
example : Spec.hintBitUnpack 3 2 [0, 0, 0, 0, 0] = some [List.replicate 256 0, List.replicate 256 0] := by decide +kernel
example : Spec.hintBitUnpack 3 2 [0, 0, 0, 4, 4] = none := by decide +kernel
example : Spec.zeta 1 = 4808194 ∧ Spec.zeta 2 = 3765607 ∧ Spec.zeta 3 = 3761513 ∧ Spec.zeta 255 = 7648983 := by decide +kernel

end Fips204.Props.C02
