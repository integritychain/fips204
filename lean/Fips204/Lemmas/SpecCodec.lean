import Fips204.Spec.Codec
import Fips204.Lemmas.BitCodec
import Fips204.Lemmas.Vec
/-! The crate's streaming `bit_pack` / `bit_unpack` are FIPS 204 Algorithms 16-19 as the standard writes them (`Spec/Codec.lean`, on explicit
    bit strings): both sides are characterised by the same number, the little-endian value of the bit string. -/
namespace Fips204.Impl
open Fips204 Fips204.Gen

theorem bitsToInteger_eq_numF (y : List Nat) : Spec.bitsToInteger y = numF 2 y := by
  induction y with
  | nil => rfl
  | cons b bs ih => simp only [Spec.bitsToInteger, numF, ih]

theorem integerToBits_eq_digits : ∀ (α x : Nat), Spec.integerToBits x α = digits 2 α x
  | 0, _ => rfl
  | α + 1, x => by rw [Spec.integerToBits, digits, integerToBits_eq_digits α]

theorem integerToBits_length (x α : Nat) : (Spec.integerToBits x α).length = α := by
  rw [integerToBits_eq_digits, digits_length]

theorem integerToBits_bits (x α : Nat) : ∀ d ∈ Spec.integerToBits x α, d < 2 := by
  rw [integerToBits_eq_digits]
  exact digits_lt 2 (by decide) α x

theorem numF_integerToBits (x α : Nat) : numF 2 (Spec.integerToBits x α) = x % 2 ^ α := by
  rw [integerToBits_eq_digits, numF_digits]

theorem integerToBits_getD (y α r : Nat) (h : r < α) : (Spec.integerToBits y α)[r]?.getD 0 = y / 2 ^ r % 2 := by
  rw [integerToBits_eq_digits, digits_eq_map, List.getElem?_map, List.getElem?_range h]
  rfl

theorem integerToBits_flatten_bits {α} (f : α → Nat) (c : Nat) (w : List α) :
    ∀ d ∈ (w.map (fun wi => Spec.integerToBits (f wi) c)).flatten, d < 2 := by
  intro d hd
  obtain ⟨blk, hblk, hd'⟩ := List.mem_flatten.mp hd
  obtain ⟨wi, _, rfl⟩ := List.mem_map.mp hblk
  exact integerToBits_bits _ _ d hd'

theorem numF_flatten (P c : Nat) : ∀ blocks : List (List Nat), (∀ bl ∈ blocks, bl.length = c) →
    numF P blocks.flatten = numF (P ^ c) (blocks.map (numF P)) := by
  intro blocks
  induction blocks with
  | nil => intro _; rfl
  | cons bl rest ih =>
    intro h
    rw [List.flatten_cons, numF_append, List.map_cons]
    simp only [numF]
    rw [h bl (List.mem_cons_self), ih (fun x hx => h x (List.mem_cons_of_mem _ hx))]

theorem bitsToBytes_length (n : Nat) (y : List Nat) : (Spec.bitsToBytes n y).length = n := by
  induction n generalizing y with
  | zero => rfl
  | succ k ih => simp only [Spec.bitsToBytes, List.length_cons, ih]

theorem bitsToBytes_lt (n : Nat) (y : List Nat) (hy : ∀ d ∈ y, d < 2) : ∀ x ∈ Spec.bitsToBytes n y, x < 256 := by
  induction n generalizing y with
  | zero => intro x hx; simp [Spec.bitsToBytes] at hx
  | succ k ih =>
    intro x hx
    simp only [Spec.bitsToBytes, List.mem_cons] at hx
    rcases hx with rfl | hx
    · rw [bitsToInteger_eq_numF]
      have h1 := numF_lt 2 (y.take 8) (fun d hd => hy d (List.mem_of_mem_take hd))
      have h2 : (y.take 8).length ≤ 8 := by simp only [List.length_take]; omega
      have h3 : 2 ^ (y.take 8).length ≤ 2 ^ 8 := Nat.pow_le_pow_right (by omega) h2
      omega
    · exact ih (y.drop 8) (fun d hd => hy d (List.mem_of_mem_drop hd)) x hx

theorem spec_pack_lt (c : Nat) (f : Int → Nat) (w : List Int) :
    ∀ x ∈ Spec.bitsToBytes (32 * c) ((w.map (fun wi => Spec.integerToBits (f wi) c)).flatten), x < 256 :=
  bitsToBytes_lt _ _ (integerToBits_flatten_bits f c w)

theorem section_lt (g : List Int → List Nat) (hg : ∀ w, ∀ x ∈ g w, x < 256) (v : List (List Int)) :
    ∀ x ∈ (v.map g).flatten, x < 256 := by
  intro x hx
  obtain ⟨blk, hblk, hx'⟩ := List.mem_flatten.mp hx
  obtain ⟨w, _, rfl⟩ := List.mem_map.mp hblk
  exact hg w x hx'

theorem section_length (g : List Int → List Nat) (step : Nat) (hg : ∀ w, (g w).length = step) (v : List (List Int)) :
    ((v.map g).flatten).length = v.length * step := by
  rw [flatten_length step _ (fun o ho => by obtain ⟨w, _, rfl⟩ := List.mem_map.mp ho; exact hg w), List.length_map]

theorem numF_bitsToBytes (n : Nat) (y : List Nat) (hl : y.length = 8 * n) : numF 256 (Spec.bitsToBytes n y) = numF 2 y := by
  induction n generalizing y with
  | zero =>
    have : y = [] := List.eq_nil_of_length_eq_zero (by omega)
    subst this; rfl
  | succ k ih =>
    simp only [Spec.bitsToBytes, numF]
    have hd : (y.drop 8).length = 8 * k := by simp only [List.length_drop]; omega
    rw [ih (y.drop 8) hd, bitsToInteger_eq_numF]
    have e := numF_append 2 (y.take 8) (y.drop 8)
    rw [List.take_append_drop] at e
    have ht : (y.take 8).length = 8 := by simp only [List.length_take]; omega
    rw [e, ht]

theorem bytesToBits_length (z : List Nat) : (Spec.bytesToBits z).length = 8 * z.length := by
  induction z with
  | nil => rfl
  | cons x xs ih => simp only [Spec.bytesToBits, List.length_append, integerToBits_length, ih, List.length_cons]; omega

theorem bytesToBits_bits (z : List Nat) : ∀ d ∈ Spec.bytesToBits z, d < 2 := by
  induction z with
  | nil => intro d hd; simp [Spec.bytesToBits] at hd
  | cons x xs ih =>
    intro d hd
    simp only [Spec.bytesToBits, List.mem_append] at hd
    rcases hd with hd | hd
    · exact integerToBits_bits _ _ d hd
    · exact ih d hd

theorem numF_bytesToBits (z : List Nat) (hz : ∀ x ∈ z, x < 256) : numF 2 (Spec.bytesToBits z) = numF 256 z := by
  induction z with
  | nil => rfl
  | cons x xs ih =>
    simp only [Spec.bytesToBits, numF]
    rw [numF_append, integerToBits_length, numF_integerToBits, ih (fun y hy => hz y (List.mem_cons_of_mem _ hy))]
    have : x % 2 ^ 8 = x := Nat.mod_eq_of_lt (by have := hz x List.mem_cons_self; omega)
    rw [this]

theorem bytesToBits_getD (s : List Nat) : ∀ n : Nat, n / 8 < s.length → (Spec.bytesToBits s).getD n 0 = s.getD (n / 8) 0 / 2 ^ (n % 8) % 2 := by
  induction s with
  | nil => intro n h; simp at h
  | cons x xs ih =>
    intro n h
    simp only [Spec.bytesToBits]
    by_cases hn : n < 8
    · rw [List.getD_eq_getElem?_getD, List.getElem?_append_left (by rw [integerToBits_length]; exact hn), integerToBits_getD x 8 n hn,
        Nat.div_eq_of_lt hn, Nat.mod_eq_of_lt hn]
      rfl
    · rw [List.getD_eq_getElem?_getD, List.getElem?_append_right (by rw [integerToBits_length]; omega), integerToBits_length,
        ← List.getD_eq_getElem?_getD, ih (n - 8) (by rw [List.length_cons] at h; omega), show n / 8 = (n - 8) / 8 + 1 by omega,
        show n % 8 = (n - 8) % 8 by omega]
      rfl


theorem groups_length (c n : Nat) (z : List Nat) : (Spec.groups c n z).length = n := by
  induction n generalizing z with
  | zero => rfl
  | succ k ih => simp only [Spec.groups, List.length_cons, ih]

theorem groups_each (c n : Nat) (z : List Nat) (h : n * c ≤ z.length) : ∀ g ∈ Spec.groups c n z, g.length = c := by
  induction n generalizing z with
  | zero => intro g hg; simp [Spec.groups] at hg
  | succ k ih =>
    intro g hg
    simp only [Spec.groups, List.mem_cons] at hg
    have hc : c ≤ z.length := by rw [Nat.succ_mul] at h; omega
    rcases hg with rfl | hg
    · simp only [List.length_take]; omega
    · exact ih (z.drop c) (by simp only [List.length_drop]; rw [Nat.succ_mul] at h; omega) g hg

theorem groups_flatten (c n : Nat) (z : List Nat) (h : z.length = n * c) : (Spec.groups c n z).flatten = z := by
  induction n generalizing z with
  | zero =>
    have : z = [] := List.eq_nil_of_length_eq_zero (by omega)
    subst this; rfl
  | succ k ih =>
    simp only [Spec.groups, List.flatten_cons]
    rw [ih (z.drop c) (by simp only [List.length_drop]; rw [Nat.succ_mul] at h; omega), List.take_append_drop]

theorem groups_bits (c n : Nat) (z : List Nat) (hz : ∀ d ∈ z, d < 2) : ∀ g ∈ Spec.groups c n z, ∀ d ∈ g, d < 2 := by
  induction n generalizing z with
  | zero => intro g hg; simp [Spec.groups] at hg
  | succ k ih =>
    intro g hg d hd
    simp only [Spec.groups, List.mem_cons] at hg
    rcases hg with rfl | hg
    · exact hz d (List.mem_of_mem_take hd)
    · exact ih (z.drop c) (fun x hx => hz x (List.mem_of_mem_drop hx)) g hg d hd

theorem specPack_eq_digits (c : Nat) (fs : List Nat) (hl : fs.length = 256) (hf : ∀ f ∈ fs, f < 2 ^ c) :
    Spec.bitsToBytes (32 * c) ((fs.map (fun f => Spec.integerToBits f c)).flatten) = digits 256 (32 * c) (numF (2 ^ c) fs) := by
  have hblk : ∀ bl ∈ fs.map (fun f => Spec.integerToBits f c), bl.length = c := by
    intro bl hb; obtain ⟨f, _, rfl⟩ := List.mem_map.mp hb; exact integerToBits_length f c
  have hlen : ((fs.map (fun f => Spec.integerToBits f c)).flatten).length = 8 * (32 * c) := by
    rw [flatten_length c _ hblk, List.length_map, hl]; omega
  have hid : fs.map (numF 2 ∘ fun f => Spec.integerToBits f c) = fs.map id := by
    apply List.map_congr_left
    intro f hfm
    simp only [Function.comp, numF_integerToBits, id]
    exact Nat.mod_eq_of_lt (hf f hfm)
  have := digits_numF 256 (Spec.bitsToBytes (32 * c) ((fs.map (fun f => Spec.integerToBits f c)).flatten))
    (bitsToBytes_lt _ _ (integerToBits_flatten_bits id c fs))
  rw [bitsToBytes_length, numF_bitsToBytes _ _ hlen, numF_flatten 2 c _ hblk, List.map_map, hid, List.map_id] at this
  exact this.symm

theorem encodeP_is_spec (a b : Int) (bl : Nat) (w : Poly) (hf : ∀ c ∈ w, fld a b c < 2 ^ bl) (hl : w.length = 256) :
    encodeP a b bl w = if a = 0 then Spec.simpleBitPack bl w else Spec.bitPack bl b w := by
  unfold encodeP
  rw [← specPack_eq_digits bl (w.map (fld a b)) (by simp [hl]) (fun d hd => by
    obtain ⟨c, hc, rfl⟩ := List.mem_map.mp hd
    exact hf c hc)]
  unfold Spec.simpleBitPack Spec.bitPack
  rw [List.map_map]
  unfold fld
  split <;> rfl

/-- **`bit_pack` is FIPS 204 Algorithm 16 (`SimpleBitPack`, `a = 0`: what `simple_bit_pack` calls) / 17 (`BitPack`, `a > 0`) as written**
    on every in-range polynomial -/
theorem bitPack_is_spec {m : Mode} {a b : Int} {bl : Nat} (P : Pair m a b bl) (w : Poly) (hw : ∀ c ∈ w, -a ≤ c ∧ c ≤ b)
    (hlen : w.length = 256) :
    bitPack m w a b (32 * bl) = .ok (if a = 0 then Spec.simpleBitPack bl w else Spec.bitPack bl b w) := by
  rw [bitPack_eq P w hw hlen, encodeP_is_spec a b bl w (fun c hc => fld_lt a b bl P.fit c (hw c hc)) hlen]

theorem specFields_eq_digits (c : Nat) (v : List Nat) (hv : ∀ x ∈ v, x < 256) (hl : v.length = 32 * c) :
    (Spec.groups c 256 (Spec.bytesToBits v)).map Spec.bitsToInteger = digits (2 ^ c) 256 (numF 256 v) := by
  have hzl : (Spec.bytesToBits v).length = 256 * c := by rw [bytesToBits_length, hl]; omega
  have hge := groups_each c 256 (Spec.bytesToBits v) (by omega)
  have hgb := groups_bits c 256 (Spec.bytesToBits v) (bytesToBits_bits v)
  rw [List.map_congr_left (g := numF 2) fun g _ => bitsToInteger_eq_numF g]
  have := digits_numF (2 ^ c) ((Spec.groups c 256 (Spec.bytesToBits v)).map (numF 2)) fun f hf => by
    obtain ⟨g, hg, rfl⟩ := List.mem_map.mp hf
    exact hge g hg ▸ numF_lt 2 g (hgb g hg)
  rw [List.length_map, groups_length, ← numF_flatten 2 c _ hge, groups_flatten c 256 _ hzl, numF_bytesToBits v hv] at this
  exact this.symm

theorem decodeP_is_spec (a b : Int) (bl : Nat) (v : List Nat) (hv : ∀ x ∈ v, x < 256) (hl : v.length = 32 * bl) :
    decodeP a b bl v = if a = 0 then Spec.simpleBitUnpack bl v else Spec.bitUnpack bl b v := by
  unfold decodeP Spec.simpleBitUnpack Spec.bitUnpack
  rw [← specFields_eq_digits bl v hv hl, List.map_map]
  unfold unfld
  split <;> rfl

/-- **`bit_unpack` is FIPS 204 Algorithm 18 (`SimpleBitUnpack`, `a = 0`: what `simple_bit_unpack` calls) / 19 (`BitUnpack`, `a > 0`) as
    written, followed by the range test `[-a, b]`** (the standard leaves that test to the caller; the crate does it inside): for
    every byte string of the right length -/
theorem bitUnpack_is_spec {m : Mode} {a b : Int} {bl : Nat} (P : Pair m a b bl) (v : List Nat) (hv : ∀ x ∈ v, x < 256) (hlen : v.length = 32 * bl) :
    bitUnpack m v a b = (do
      let ok ← isInRange m (if a = 0 then Spec.simpleBitUnpack bl v else Spec.bitUnpack bl b v) a b
      if ok then pure (some (if a = 0 then Spec.simpleBitUnpack bl v else Spec.bitUnpack bl b v)) else pure none) := by
  have ha := P.lo
  rw [bitUnpack_eq P v hv hlen, decodeP_is_spec a b bl v hv hlen, isInRange_eq m _ a b (by omega), ok_bind]
  cases inR a b (if a = 0 then Spec.simpleBitUnpack bl v else Spec.bitUnpack bl b v) <;> rfl

theorem decodeP_fld_lt (a b : Int) (bl : Nat) (v : List Nat) : ∀ c ∈ decodeP a b bl v, fld a b c < 2 ^ bl := by
  intro c hc
  obtain ⟨d, hd, rfl⟩ := List.mem_map.mp hc
  rw [fld_unfld]
  exact digits_lt _ (Nat.two_pow_pos bl) _ _ d hd

theorem spec_simpleBitPack_simpleBitUnpack (bl : Nat) (v : List Nat) (hv : ∀ x ∈ v, x < 256) (hl : v.length = 32 * bl) :
    Spec.simpleBitPack bl (Spec.simpleBitUnpack bl v) = v := by
  have eu := decodeP_is_spec 0 0 bl v hv hl
  have ep := encodeP_is_spec 0 0 bl _ (decodeP_fld_lt 0 0 bl v) (decodeP_length ..)
  rw [if_pos rfl] at eu ep
  rw [← eu, ← ep, encodeP_decodeP 0 0 bl v hv hl]

theorem spec_bitPack_bitUnpack (bl : Nat) (b : Int) (v : List Nat) (hv : ∀ x ∈ v, x < 256) (hl : v.length = 32 * bl) :
    Spec.bitPack bl b (Spec.bitUnpack bl b v) = v := by
  have eu := decodeP_is_spec 1 b bl v hv hl
  have ep := encodeP_is_spec 1 b bl _ (decodeP_fld_lt 1 b bl v) (decodeP_length ..)
  rw [if_neg (by decide)] at eu ep
  rw [← eu, ← ep, encodeP_decodeP 1 b bl v hv hl]

theorem spec_simpleBitUnpack_simpleBitPack (bl : Nat) (b : Int) (hb : b < 2 ^ bl) (w : Poly) (hw : ∀ c ∈ w, -0 ≤ c ∧ c ≤ b) (hl : w.length = 256) :
    Spec.simpleBitUnpack bl (Spec.simpleBitPack bl w) = w := by
  have ep := encodeP_is_spec 0 b bl w (fun c hc => fld_lt 0 b bl (by omega) c (hw c hc)) hl
  have eu := decodeP_is_spec 0 b bl _ (encodeP_lt 0 b bl w) (encodeP_length ..)
  rw [if_pos rfl] at eu ep
  rw [← ep, ← eu, decodeP_encodeP 0 b bl w (by omega) hw hl]

theorem spec_bitUnpack_bitPack (a b : Int) (bl : Nat) (ha : 0 < a) (hab : a + b < 2 ^ bl) (w : Poly) (hw : ∀ c ∈ w, -a ≤ c ∧ c ≤ b)
    (hl : w.length = 256) : Spec.bitUnpack bl b (Spec.bitPack bl b w) = w := by
  have ep := encodeP_is_spec a b bl w (fun c hc => fld_lt a b bl hab c (hw c hc)) hl
  have eu := decodeP_is_spec a b bl _ (encodeP_lt a b bl w) (encodeP_length ..)
  rw [if_neg (by omega)] at eu ep
  rw [← ep, ← eu, decodeP_encodeP a b bl w hab hw hl]

theorem map_decodeP_sh (a b : Int) (bl n : Nat) (f : Nat → List Nat) : Sh n ((List.range n).map fun i => decodeP a b bl (f i)) :=
  ⟨by rw [List.length_map, List.length_range], fun q hq => by
    obtain ⟨i, _, rfl⟩ := List.mem_map.mp hq
    exact decodeP_length ..⟩

theorem map_decodeP_exact_in (a b : Int) (bl : Nat) (hpow : a + b + 1 = 2 ^ bl) (n : Nat) (f : Nat → List Nat) :
    VecIn n (-a) b ((List.range n).map fun i => decodeP a b bl (f i)) :=
  ⟨map_decodeP_sh a b bl n f, fun q hq => by
    obtain ⟨i, _, rfl⟩ := List.mem_map.mp hq
    exact (inR_iff ..).mp (inR_decodeP_exact a b bl hpow _)⟩

end Fips204.Impl
