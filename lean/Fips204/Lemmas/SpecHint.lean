import Fips204.Lemmas.HintLists
import Fips204.Lemmas.Shapes
import Fips204.Spec.Codec
/-!
  FIPS 204 Algorithms 21 and 20 (`HintBitUnpack`, `HintBitPack`, `Spec/Codec.lean`) in closed form, in the terms of `Lemmas/HintLists`:
  Algorithm 21 accepts a byte string exactly when the tests `wfB`, `padB` pass on its count bytes and then returns `polysOf`; Algorithm
  20 writes `yOf`.  Of the standard's function alone and for every input: a hint vector returned by
  `Spec.hintBitUnpack` has at most `omega` ones (each pass of the `while` loop sets one coefficient and advances `Index`, and `Index`
  never exceeds `omega`); the closed form does not give this, since it needs the length of the byte string and `omega ≤ 256`.
-/
namespace Fips204.Impl
open Fips204 Fips204.Gen

theorem spec_hintWhile_eq (y : List Nat) (first limit : Nat) (hl : limit ≤ y.length) :
    ∀ (fuel index : Nat) (hp : List Int), index ≤ limit → limit ≤ index + fuel →
      Spec.hintWhile y first limit fuel index hp =
        if incB y first index limit then some (limit, setOnes ((y.drop index).take (limit - index)) hp) else none := by
  intro fuel
  induction fuel with
  | zero =>
    intro index hp h1 h2
    have : index = limit := by omega
    subst this
    simp [Spec.hintWhile, incB, setOnes]
  | succ fuel ih =>
    intro index hp h1 h2
    unfold Spec.hintWhile
    by_cases hlt : index < limit
    · have hseg : (y.drop index).take (limit - index) = y.getD index 0 :: (y.drop (index + 1)).take (limit - (index + 1)) := by
        rw [List.drop_eq_getElem_cons (by omega), show limit - index = (limit - (index + 1)) + 1 by omega, List.take_succ_cons,
          getD_nat_of_lt y index (by omega)]
      have hinc : incB y first index limit =
          ((decide (index ≤ first) || decide (y.getD (index - 1) 0 < y.getD index 0)) && incB y first (index + 1) limit) := by
        unfold incB
        rw [show limit - index = (limit - (index + 1)) + 1 by omega, List.range'_succ, List.all_cons]
      rw [if_pos hlt, hinc, hseg]
      by_cases hrej : index > first ∧ y.getD (index - 1) 0 ≥ y.getD index 0
      · rw [if_pos hrej, decide_eq_false (by omega), decide_eq_false (by omega)]
        rfl
      · rw [if_neg hrej, ih (index + 1) _ (by omega) (by omega),
          show (decide (index ≤ first) || decide (y.getD (index - 1) 0 < y.getD index 0)) = true by
            rw [Bool.or_eq_true, decide_eq_true_eq, decide_eq_true_eq]; omega, Bool.true_and]
        rfl
    · have : index = limit := by omega
      subst this
      rw [if_neg hlt]
      simp [incB, setOnes]

theorem spec_hintFor_eq (y : List Nat) (om : Nat) (hom : om ≤ y.length) (h256 : om ≤ 256) : ∀ (is : List Nat) (index : Nat) (acc : List Poly),
    Spec.hintFor y om is index acc =
      if wfB y om index (is.map fun i => y.getD (om + i) 0) then
        some ((is.map fun i => y.getD (om + i) 0).getLastD index, acc.reverse ++ polysOf y index (is.map fun i => y.getD (om + i) 0))
      else none := by
  intro is
  induction is with
  | nil => intro index acc; simp [Spec.hintFor, wfB, polysOf, slices]
  | cons i is ih =>
    intro index acc
    unfold Spec.hintFor
    rw [List.map_cons, List.getLastD_cons, wfB]
    by_cases hrej : y.getD (om + i) 0 < index ∨ y.getD (om + i) 0 > om
    · rw [if_pos hrej, decide_eq_false (by omega)]
      rfl
    · rw [if_neg hrej, decide_eq_true (by omega), Bool.true_and,
        spec_hintWhile_eq y index _ (by omega) 256 index _ (by omega) (by omega)]
      cases incB y index index (y.getD (om + i) 0) with
      | false => rfl
      | true =>
        simp only [if_true, Bool.true_and]
        rw [ih, List.reverse_cons, List.append_assoc, List.singleton_append]
        rfl

theorem map_getD_range (y : List Nat) (s n : Nat) (h : s + n ≤ y.length) : (List.range n).map (fun i => y.getD (s + i) 0) = (y.drop s).take n := by
  apply List.ext_getElem
  · rw [List.length_map, List.length_range, List.length_take, List.length_drop]
    omega
  · intro i h1 h2
    rw [List.getElem_map, List.getElem_range, List.getElem_take, List.getElem_drop, getD_nat_of_lt y _ (by rw [List.length_map, List.length_range] at h1; omega)]

theorem spec_hintBitUnpack_eq (om k : Nat) (y : List Nat) (hlen : y.length = om + k) (h256 : om ≤ 256) :
    Spec.hintBitUnpack om k y =
      if wfB y om 0 ((y.drop om).take k) && padB y (((y.drop om).take k).getLastD 0) om then some (polysOf y 0 ((y.drop om).take k)) else none := by
  unfold Spec.hintBitUnpack padB
  rw [spec_hintFor_eq y om (by omega) h256, map_getD_range y om k (by omega)]
  cases wfB y om 0 ((y.drop om).take k) with
  | false => rfl
  | true =>
    simp only [if_true, Bool.true_and, List.reverse_nil, List.nil_append]
    cases (List.range (om - ((y.drop om).take k).getLastD 0)).any (fun d => decide (y.getD (((y.drop om).take k).getLastD 0 + d) 0 ≠ 0)) with
    | false => rfl
    | true => rfl

theorem spec_hintPackPoly_eq : ∀ (L : List (Nat × Int)) (y : List Nat) (idx : Nat), (∀ je ∈ L, je.1 < 256) →
    Spec.hintPackPoly L y idx = (wr y idx (nzIdx L), idx + (nzIdx L).length) := by
  intro L
  induction L with
  | nil => intro y idx _; simp [Spec.hintPackPoly, nzIdx, wr]
  | cons je L ih =>
    intro y idx h
    obtain ⟨j, e⟩ := je
    have hj : j < 256 := h (j, e) List.mem_cons_self
    rw [nzIdx_cons]
    unfold Spec.hintPackPoly
    by_cases he : e ≠ 0
    · rw [if_pos he, if_pos he, ih _ _ (fun x hx => h x (List.mem_cons_of_mem _ hx))]
      simp only [wr, List.length_cons, Nat.mod_eq_of_lt hj]
      congr 1; omega
    · rw [if_neg he, if_neg he]
      exact ih y idx (fun x hx => h x (List.mem_cons_of_mem _ hx))

/-- **the `for` loop** with the lists `ps` written and the polynomials `hs` to come: each pass is `yPart_step` -/
theorem spec_hintPackFor_eq (om k : Nat) : ∀ (hs : List Poly) (ps : List (List Nat)), ps.length + hs.length = k →
    (∀ q ∈ hs, q.length = 256) → (ps ++ hs.map nzI).flatten.length ≤ om →
    Spec.hintPackFor om (List.zip (List.range' ps.length hs.length) hs) (yPart om k ps) ps.flatten.length = yPart om k (ps ++ hs.map nzI) := by
  intro hs
  induction hs with
  | nil => intro ps _ _ _; rw [List.map_nil, List.append_nil]; rfl
  | cons p hs ih =>
    intro ps hk hl hle
    rw [List.map_cons, List.append_cons] at hle ⊢
    have hle' : (ps ++ [nzI p]).flatten.length ≤ om := by
      rw [List.flatten_append, List.length_append] at hle
      omega
    rw [List.length_cons, List.range'_succ, List.zip_cons_cons, Spec.hintPackFor,
      spec_hintPackPoly_eq _ _ _ (fun je hje => List.mem_range.mp (List.of_mem_zip hje).1)]
    dsimp only
    have := ih (ps ++ [nzI p]) (by rw [List.length_append, List.length_singleton]; rw [List.length_cons] at hk; omega)
      (fun q hq => hl q (List.mem_cons_of_mem _ hq)) hle
    rw [List.length_append, List.length_singleton, List.flatten_append, List.length_append] at this
    rw [← nzI, ← this, ← yPart_step om k ps (nzI p) (nzI_lt p (hl p (List.mem_cons_self ..))) hle'
      (by rw [List.length_cons] at hk; omega), List.flatten_append, List.length_append]
    simp

theorem spec_hintBitPack_eq (om : Nat) (h : List Poly) (hb : ∀ q ∈ h, Bin q) (hsum : onesAll h ≤ om) : Spec.hintBitPack om h = yOf om h := by
  have := spec_hintPackFor_eq om h.length h [] (Nat.zero_add _) (fun q hq => (hb q hq).1)
    (by rw [List.nil_append, flatten_nzI_length h hb]; exact hsum)
  rw [yPart_nil, List.length_nil, ← List.range_eq_range', List.nil_append] at this
  rw [Spec.hintBitPack, yOf, ← yPart_full, List.length_map]
  exact this

theorem spec_hintWhile_weight (y : List Nat) (first limit : Nat) : ∀ (fuel index : Nat) (hp : List Int) (index' : Nat) (hp' : List Int),
    Spec.hintWhile y first limit fuel index hp = some (index', hp') →
      index ≤ index' ∧ (index ≤ limit → index' ≤ limit) ∧ ones hp' + index ≤ ones hp + index' := by
  intro fuel
  induction fuel with
  | zero =>
    intro index hp index' hp' h
    simp only [Spec.hintWhile, Option.some.injEq, Prod.mk.injEq] at h
    obtain ⟨rfl, rfl⟩ := h
    exact ⟨Nat.le_refl _, fun h => h, Nat.le_refl _⟩
  | succ fuel ih =>
    intro index hp index' hp' h
    unfold Spec.hintWhile at h
    by_cases hlt : index < limit
    · rw [if_pos hlt] at h
      split at h
      · cases h
      · obtain ⟨a, b, c⟩ := ih (index + 1) _ index' hp' h
        have hs := ones_set_le hp (y.getD index 0)
        exact ⟨by omega, fun _ => b (by omega), by omega⟩
    · rw [if_neg hlt] at h
      simp only [Option.some.injEq, Prod.mk.injEq] at h
      obtain ⟨rfl, rfl⟩ := h
      exact ⟨Nat.le_refl _, fun h => h, Nat.le_refl _⟩

theorem onesAll_reverse_cons (hp : List Int) (acc : List (List Int)) : onesAll (hp :: acc) = ones hp + onesAll acc := onesAll_cons hp acc

theorem spec_hintFor_weight (y : List Nat) (omega : Nat) : ∀ (is : List Nat) (index : Nat) (acc : List (List Int)) (index' : Nat) (h : List (List Int)),
    Spec.hintFor y omega is index acc = some (index', h) → index ≤ omega →
      index ≤ index' ∧ index' ≤ omega ∧ onesAll h + index ≤ onesAll acc + index' := by
  intro is
  induction is with
  | nil =>
    intro index acc index' h hh ho
    simp only [Spec.hintFor, Option.some.injEq, Prod.mk.injEq] at hh
    obtain ⟨rfl, rfl⟩ := hh
    exact ⟨Nat.le_refl _, ho, by rw [onesAll_reverse]; exact Nat.le_refl _⟩
  | cons i is ih =>
    intro index acc index' h hh ho
    unfold Spec.hintFor at hh
    split at hh
    · cases hh
    · rename_i hc
      have hc1 : index ≤ y.getD (omega + i) 0 := by omega
      split at hh
      · cases hh
      · rename_i ix hp hw
        obtain ⟨a, b, c⟩ := spec_hintWhile_weight y index _ 256 index _ ix hp hw
        obtain ⟨a', b', c'⟩ := ih ix (hp :: acc) index' h hh (by have := b hc1; omega)
        rw [onesAll_cons, ones_replicate_zero] at *
        exact ⟨by omega, b', by omega⟩

theorem spec_hintBitUnpack_weight (omega k : Nat) (y : List Nat) (h : List (List Int)) (hd : Spec.hintBitUnpack omega k y = some h) :
    onesAll h ≤ omega := by
  unfold Spec.hintBitUnpack at hd
  split at hd
  · cases hd
  · rename_i index h' hf
    split at hd
    · cases hd
    · simp only [Option.some.injEq] at hd
      subst hd
      obtain ⟨_, b, c⟩ := spec_hintFor_weight y omega (List.range k) 0 [] index h' hf (Nat.zero_le _)
      have : onesAll ([] : List Poly) = 0 := rfl
      rw [this] at c
      omega

theorem spec_hintBitUnpack_inv (omega k : Nat) (y : List Nat) (hok : omega + k < 256) (hy : ∀ b ∈ y, b < 256)
    (hlen : y.length = omega + k) (h : List Poly) (hd : Spec.hintBitUnpack omega k y = some h) :
    Sh k h ∧ (∀ q ∈ h, Bin q) ∧ onesAll h ≤ omega ∧ Spec.hintBitPack omega h = y := by
  have hw := spec_hintBitUnpack_weight omega k y h hd
  rw [spec_hintBitUnpack_eq omega k y hlen (by omega)] at hd
  split at hd
  · next hc =>
    cases hd
    obtain ⟨hwf, hpad⟩ := Bool.and_eq_true_iff.mp hc
    obtain ⟨hl, hbin⟩ := polysOf_bin y 0 ((y.drop omega).take k)
    rw [List.length_take, List.length_drop, Nat.min_eq_left (by omega)] at hl
    exact ⟨⟨hl, fun q hq => (hbin q hq).1⟩, hbin, hw, by rw [spec_hintBitPack_eq omega _ hbin hw, yOf_polysOf y hy omega k hlen hwf hpad]⟩
  · cases hd

theorem spec_hintBitUnpack_hintBitPack (omega k : Nat) (h : List Poly) (hok : omega + k < 256)
    (hl : h.length = k) (hb : ∀ q ∈ h, Bin q) (hsum : onesAll h ≤ omega) :
    (Spec.hintBitPack omega h).length = omega + k ∧ (∀ b ∈ Spec.hintBitPack omega h, b < 256) ∧
    Spec.hintBitUnpack omega k (Spec.hintBitPack omega h) = some h := by
  subst hl
  have hlen := yOf_length omega h hb hsum
  obtain ⟨hc, g1, g2, g3⟩ := polysOf_yOf omega h hb hsum
  rw [spec_hintBitPack_eq omega h hb hsum]
  refine ⟨hlen, yOf_lt omega (by omega) h hb hsum, ?_⟩
  rw [spec_hintBitUnpack_eq omega h.length _ hlen (by omega), hc, g1, g2, g3]
  rfl


/-- well-formedness of the count bytes and index segments of a hint section, from polynomial `i0` and byte `index` on:
    counts never decrease, never exceed `omB`, and the indices of each polynomial strictly increase -/
def hintWF (y : List Nat) (om omB : Nat) : Nat → Nat → Nat → Prop
  | 0, _, _ => True
  | n + 1, i0, index =>
    index ≤ y.getD (om + i0) 0 ∧ y.getD (om + i0) 0 ≤ omB ∧
    (∀ j, index < j → j < y.getD (om + i0) 0 → y.getD (j - 1) 0 < y.getD j 0) ∧
    hintWF y om omB n (i0 + 1) (y.getD (om + i0) 0)
theorem wfB_hintWF (y : List Nat) (om omB : Nat) : ∀ n i0 index, om + i0 + n ≤ y.length →
    wfB y omB index ((y.drop (om + i0)).take n) = true → hintWF y om omB n i0 index := by
  intro n
  induction n with
  | zero => intro _ _ _ _; trivial
  | succ n ih =>
    intro i0 index hlen h
    rw [List.drop_eq_getElem_cons (by omega), List.take_succ_cons, ← getD_nat_of_lt y _ (by omega), wfB_cons] at h
    obtain ⟨⟨h1, h2⟩, h3, h4⟩ := h
    exact ⟨h1, h2, fun j hj1 hj2 => by
      rcases (incB_iff ..).mp h3 j (by omega) hj2 with h | h
      · omega
      · exact h, ih (i0 + 1) _ (by omega) h4⟩

theorem getLastD_counts (y : List Nat) (om k : Nat) (hlen : y.length = om + k) (hk : 0 < k) :
    ((y.drop om).take k).getLastD 0 = y.getD (om + k - 1) 0 := by
  rw [List.getLastD_eq_getLast?, List.getLast?_eq_getElem?, List.length_take, List.length_drop, Nat.min_eq_left (by omega),
    List.getElem?_take, if_pos (by omega), List.getElem?_drop, List.getD_eq_getElem?_getD, show om + (k - 1) = om + k - 1 by omega]

theorem spec_hintBitUnpack_wellformed (om k : Nat) (y : List Nat) (hk : 1 ≤ k ∧ om + k < 256) (hlen : y.length = om + k)
    (h : List Poly) (hd : Spec.hintBitUnpack om k y = some h) :
    hintWF y om om k 0 0 ∧ ∀ p, y.getD (om + k - 1) 0 ≤ p → p < om → y.getD p 0 = 0 := by
  rw [spec_hintBitUnpack_eq om k y hlen (by omega)] at hd
  split at hd
  · next hc =>
    obtain ⟨h1, h2⟩ := Bool.and_eq_true_iff.mp hc
    rw [getLastD_counts y om k hlen hk.1] at h2
    exact ⟨wfB_hintWF y om om k 0 0 (by omega) h1, (padB_iff ..).mp h2⟩
  · cases hd

end Fips204.Impl
