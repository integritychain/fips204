import Fips204.Lemmas.Decompose
import Fips204.Lemmas.VerifyCore
/-! The verifier's ring identity, at the level of the exact specifications: with `t = A s1 + s2` (key generation),
    `t = t1 2^13 + t0` (Power2Round), `z = y + c s1` and `w = A y` (signing),
    `NTT^-1(A_hat ∘ NTT(z) - NTT(c) ∘ NTT(t1 2^13)) = w - c s2 + c t0` modulo q, row by row.
    The proof evaluates both sides at the 256 roots (`nttS_ev`) and uses that the two transforms are mutually inverse
    (`invC_nttS`, `nttS_invC`). -/
namespace Fips204.Impl
open Fips204 Fips204.Gen Fips204.K

theorem nttS_getD (u : List Int) (hu : u.length = 256) (i : Nat) (hi : i < 256) :
    cg ((nttS 8 1 u).getD i 0) (ev (root 8 1 i) u) := by
  have ln := nttS_length 8 1 u (by rw [hu])
  rw [← List.getElem_eq_getD (h := by rw [ln]; exact hi)]
  exact nttS_ev u hu i _

theorem ev_invC (v : List Int) (hv : v.length = 256) (i : Nat) (hi : i < 256) :
    cg (ev (root 8 1 i) (invC v)) (v.getD i 0) := by
  have hl := invC_length v hv
  have ln := nttS_length 8 1 (invC v) (by rw [hl])
  have c := (nttS_invC v hv).2 i (by rw [ln]; exact hi) (by rw [hv]; exact hi)
  rw [← List.getElem_eq_getD (h := by rw [hv]; exact hi)]
  exact (nttS_ev (invC v) hl i _).symm.trans c

/-- `sum_j a_j[i] * u_j(x)` -/
def rowEv (x : Int) (i : Nat) : List Poly → List Poly → Int
  | a :: as, u :: us => a.getD i 0 * ev x u + rowEv x i as us
  | _, _ => 0

theorem rowS_ev (i : Nat) (hi : i < 256) : ∀ (row us : List Poly) (P : Poly), P.length = 256 → (∀ a ∈ row, a.length = 256) →
    (∀ u ∈ us, u.length = 256) → cg ((rowS row us P).getD i 0) (P.getD i 0 + rowEv (root 8 1 i) i row us) := by
  intro row
  induction row with
  | nil =>
    intro us P _ _ _
    simp only [rowS, rowEv, Int.add_zero]
    exact cg.refl _
  | cons a as ih =>
    intro us P hP ha hu
    cases us with
    | nil =>
      simp only [rowS, rowEv, Int.add_zero]
      exact cg.refl _
    | cons u us =>
      have la := ha a (List.mem_cons_self ..)
      have lu := hu u (List.mem_cons_self ..)
      have ln : (nttS 8 1 u).length = 256 := nttS_length 8 1 u (by rw [lu])
      have lm : (List.zipWith (fun x y => x * y) a (nttS 8 1 u)).length = 256 := by rw [List.length_zipWith, la, ln]; rfl
      have lP' : (List.zipWith (fun p q => p + q) P (List.zipWith (fun x y => x * y) a (nttS 8 1 u))).length = 256 := by
        rw [List.length_zipWith, hP, lm]; rfl
      have c1 := ih us _ lP' (fun b hb => ha b (List.mem_cons_of_mem _ hb)) (fun b hb => hu b (List.mem_cons_of_mem _ hb))
      rw [rowS]
      refine c1.trans ?_
      rw [getD_zipWith _ _ _ i (by omega) (by omega), getD_zipWith _ _ _ i (by omega) (by omega)]
      have h := (nttS_getD u lu i hi).mul_left (a.getD i 0)
      simp only [rowEv]
      have e : P.getD i 0 + (a.getD i 0 * ev (root 8 1 i) u + rowEv (root 8 1 i) i as us) =
          (P.getD i 0 + a.getD i 0 * ev (root 8 1 i) u) + rowEv (root 8 1 i) i as us := by grind
      rw [e]
      exact ((cg.refl _).add h).add (cg.refl _)

theorem rowEv_lin (x C : Int) (i : Nat) : ∀ (row ys ss zs : List Poly), ys.length = ss.length → zs.length = ys.length →
    (∀ j (h1 : j < zs.length) (h2 : j < ys.length) (h3 : j < ss.length), cg (ev x zs[j]) (ev x ys[j] + C * ev x ss[j])) →
    cg (rowEv x i row zs) (rowEv x i row ys + C * rowEv x i row ss) := by
  intro row
  induction row with
  | nil => intro ys ss zs _ _ _; simp only [rowEv]; exact cg.of_eq (by simp)
  | cons a as ih =>
    intro ys ss zs h1 h2 h
    cases ys with
    | nil =>
      have e1 : zs = [] := List.eq_nil_of_length_eq_zero (by simpa using h2)
      have e2 : ss = [] := List.eq_nil_of_length_eq_zero (by simpa using h1.symm)
      subst e1; subst e2
      simp only [rowEv]; exact cg.of_eq (by simp)
    | cons y ys =>
      cases ss with
      | nil => simp at h1
      | cons s ss =>
        cases zs with
        | nil => simp at h2
        | cons z zs =>
          simp only [rowEv]
          have h0 := h 0 (by simp) (by simp) (by simp)
          simp only [List.getElem_cons_zero] at h0
          have ht := ih ys ss zs (by simpa using h1) (by simpa using h2) (fun j g1 g2 g3 => by
            have := h (j + 1) (by simp; omega) (by simp; omega) (by simp; omega)
            simpa using this)
          exact ((h0.mul_left (a.getD i 0)).add ht).trans (cg.of_eq (by grind))

theorem ev_cmul (c s : Poly) (lc : c.length = 256) (ls : s.length = 256) (i : Nat) (hi : i < 256) :
    cg (ev (root 8 1 i) (cmul c s)) (ev (root 8 1 i) c * ev (root 8 1 i) s) :=
  (ev_cong _ _ _ (canon_cong _)).trans (ev_negMul c s lc ls i hi)

/-- adding two polynomials through any coefficient function that keeps the residue class (`modpm Q`, `· % Q`) adds their values -/
theorem ev_zip_of_cg (f : Int → Int) (hf : ∀ x, cg (f x) x) (x : Int) (yp cp : Poly) (h : yp.length = cp.length) :
    cg (ev x (List.zipWith (fun a b => f (a + b)) yp cp)) (ev x yp + ev x cp) := by
  rw [← ev_zip_add x yp cp h]
  apply ev_cong
  refine ⟨by simp, fun i h1 h2 => ?_⟩
  simp only [List.getElem_zipWith]
  exact hf _

theorem p2r_recompose (v : Int) : cg (8192 * (Spec.power2round v).1) (v - (Spec.power2round v).2) := by
  have := Spec.power2round_spec v
  unfold cg
  simp only [Q] at *
  omega

theorem ev_t1 (x : Int) (t : Poly) :
    cg (ev x ((t.map (fun v => (Spec.power2round v).1)).map (fun v => 8192 * v)))
      (ev x t - ev x (t.map (fun v => (Spec.power2round v).2))) := by
  rw [← ev_zip_sub x t _ (by simp)]
  apply ev_cong
  refine ⟨by simp, fun i h1 h2 => ?_⟩
  simp only [List.getElem_zipWith, List.getElem_map]
  exact p2r_recompose _

theorem ev_zw3_lin (x : Int) : ∀ (a b c : List Int), a.length = b.length → b.length = c.length →
    ev x (zw3 (fun p q r => p - q + r) a b c) = ev x a - ev x b + ev x c := by
  intro a
  induction a with
  | nil => intro b c h1 h2; simp [zw3, ev]
           have : b = [] := List.eq_nil_of_length_eq_zero (by simpa using h1.symm)
           subst this
           have : c = [] := List.eq_nil_of_length_eq_zero (by simpa using h2.symm)
           subst this; simp [ev]
  | cons p ps ih =>
    intro b c h1 h2
    cases b with
    | nil => simp at h1
    | cons q qs =>
      cases c with
      | nil => simp at h2
      | cons r rs =>
        have := ih qs rs (by simpa using h1) (by simpa using h2)
        unfold zw3 at this ⊢
        simp only [List.zip_cons_cons, List.zipWith_cons_cons, ev, this]
        grind

/-- the verifier's identity in one NTT slot `i`, i.e. at one root `ζ` of `X^256 + 1` (every relation is a congruence mod q).
    Slot values: `Z = (Â ẑ)_i`, `Y = (Â ŷ)_i`, `R = (Â ŝ1)_i`, `NC = ĉ_i`, `N8 = NTT(2^13 t1)_i`.  Values at `ζ`: `C = c(ζ)`, `S2 = s2(ζ)`,
    `T = t(ζ)`, `T0 = t0(ζ)`, `E8 = (2^13 t1)(ζ)`, `W = w(ζ)`, `CS2 = (c s2)(ζ)`, `CT0 = (c t0)(ζ)`.  `zEv`, `yEv`, `rEv` are the row sums
    `Σ_j a_j[i] u_j(ζ)` for `u = z, y, s1`.  The hypotheses are the defining relations (`z = y + c s1`, `w = A y`, `t = A s1 + s2`,
    `2^13 t1 = t - t0`, a slot of the transform is the value at `ζ`); the conclusion is `w - c s2 + c t0 = A z - c t1 2^13` in that slot. -/
theorem ring_scalar (Z Y R C T T0 S2 E8 NC N8 W CS2 CT0 zEv yEv rEv : Int)
    (h1 : cg Z zEv) (h2 : cg zEv (yEv + C * rEv)) (h3 : cg Y yEv) (h4 : cg R rEv) (h5 : cg W Y) (h6 : cg T (R + S2))
    (h7 : cg E8 (T - T0)) (h8 : cg NC C) (h9 : cg N8 E8) (h10 : cg CS2 (C * S2)) (h11 : cg CT0 (C * T0)) :
    cg (W - CS2 + CT0) (Z - NC * N8) := by
  have a1 : cg Z (Y + C * R) := h1.trans (h2.trans ((h3.symm).add ((cg.refl C).mul h4.symm)))
  have a2 : cg N8 ((R + S2) - T0) := h9.trans (h7.trans (h6.sub (cg.refl T0)))
  have a3 : cg (Z - NC * N8) ((Y + C * R) - C * ((R + S2) - T0)) := a1.sub (h8.mul a2)
  have a4 : cg (W - CS2 + CT0) (Y - C * S2 + C * T0) := (h5.sub h10).add h11
  exact a4.trans ((cg.of_eq (by grind)).trans a3.symm)

theorem verifier_row (row s1 y : List Poly) (c s2r : Poly) (hrow : ∀ a ∈ row, a.length = 256) (hs1 : ∀ u ∈ s1, u.length = 256)
    (hy : ∀ u ∈ y, u.length = 256) (hl1 : y.length = s1.length) (lc : c.length = 256) (ls2 : s2r.length = 256) :
    CongL (wRowS row (List.zipWith (fun yp cp => List.zipWith (fun a b => modpm Q (a + b)) yp cp) y (s1.map (cmul c))) c
        ((tRowS row s1 s2r).map (fun v => (Spec.power2round v).1)))
      (zw3 (fun p q r => p - q + r) (invC (rowS row y zeroPoly)) (cmul c s2r)
        (cmul c ((tRowS row s1 s2r).map (fun v => (Spec.power2round v).2)))) := by
  have lz := zeroPoly_length
  have lRy := rowS_length row y hrow hy
  have lRs := rowS_length row s1 hrow hs1
  have lw := invC_length _ lRy
  have lt := tRowS_length row s1 s2r hrow hs1 ls2
  have lt0 : ((tRowS row s1 s2r).map (fun v => (Spec.power2round v).2)).length = 256 := by rw [List.length_map, lt]
  have lt1 : (((tRowS row s1 s2r).map (fun v => (Spec.power2round v).1)).map (fun v => 8192 * v)).length = 256 := by
    rw [List.length_map, List.length_map, lt]
  have lcs2 := cmul_length c s2r lc ls2
  have lct0 := cmul_length c _ lc lt0
  have lrhs : (zw3 (fun p q r => p - q + r) (invC (rowS row y zeroPoly)) (cmul c s2r)
      (cmul c ((tRowS row s1 s2r).map (fun v => (Spec.power2round v).2)))).length = 256 := by
    rw [zw3_length, lw, lcs2, lct0]; rfl
  have hzl := (Sh.zipWith₂ (fun a b => modpm Q (a + b)) ⟨rfl, hy⟩ (cmul_sh c lc ⟨hl1.symm, hs1⟩)).2
  have lRz := rowS_length row _ hrow hzl
  have lnc : (nttS 8 1 c).length = 256 := nttS_length 8 1 c (by rw [lc])
  have ln8 : (nttS 8 1 (((tRowS row s1 s2r).map (fun v => (Spec.power2round v).1)).map (fun v => 8192 * v))).length = 256 :=
    nttS_length 8 1 _ (by rw [lt1])
  -- both sides through the transform
  have key : CongL (nttS 8 1 (zw3 (fun p q r => p - q + r) (invC (rowS row y zeroPoly)) (cmul c s2r)
      (cmul c ((tRowS row s1 s2r).map (fun v => (Spec.power2round v).2)))))
      (List.zipWith (fun a b => a - b) (rowS row (List.zipWith (fun yp cp => List.zipWith (fun a b => modpm Q (a + b)) yp cp) y (s1.map (cmul c))) zeroPoly)
        (List.zipWith (fun x y => x * y) (nttS 8 1 c)
          (nttS 8 1 (((tRowS row s1 s2r).map (fun v => (Spec.power2round v).1)).map (fun v => 8192 * v))))) := by
    have lN := nttS_length 8 1 _ (show _ = 2 ^ 8 from lrhs)
    have lmul : (List.zipWith (fun x y => x * y) (nttS 8 1 c)
          (nttS 8 1 (((tRowS row s1 s2r).map (fun v => (Spec.power2round v).1)).map (fun v => 8192 * v)))).length = 256 := by
      rw [List.length_zipWith, lnc, ln8]; rfl
    refine ⟨by rw [lN, List.length_zipWith, lRz, lmul]; rfl, fun i g1 g2 => ?_⟩
    have hi : i < 256 := by rw [lN] at g1; exact g1
    rw [List.getElem_eq_getD (h := g1) 0, List.getElem_eq_getD (h := g2) 0]
    rw [getD_zipWith _ _ _ i (by omega) (by omega), getD_zipWith _ _ _ i (by omega) (by omega)]
    refine (nttS_getD _ lrhs i hi).trans ?_
    rw [ev_zw3_lin _ _ _ _ (by rw [lw, lcs2]) (by rw [lcs2, lct0])]
    have zz : zeroPoly.getD i 0 = 0 := by
      rw [List.getD_eq_getElem?_getD, zeroPoly_get i hi]; rfl
    have rz := rowS_ev i hi row _ zeroPoly lz hrow hzl
    have ry := rowS_ev i hi row y zeroPoly lz hrow hy
    have rs := rowS_ev i hi row s1 zeroPoly lz hrow hs1
    rw [zz, Int.zero_add] at rz ry rs
    have lin := rowEv_lin (root 8 1 i) (ev (root 8 1 i) c) i row y s1
      (List.zipWith (fun yp cp => List.zipWith (fun a b => modpm Q (a + b)) yp cp) y (s1.map (cmul c))) hl1
      (by rw [List.length_zipWith, List.length_map, hl1]; omega)
      (fun j k1 k2 k3 => by
        rw [List.getElem_zipWith, List.getElem_map]
        have ly := hy _ (List.getElem_mem k2)
        have lsj := hs1 _ (List.getElem_mem k3)
        exact (ev_zip_of_cg _ cg_modpm _ _ _ (by rw [ly, cmul_length c _ lc lsj])).trans ((cg.refl _).add (ev_cmul c _ lc lsj i hi)))
    have hw := ev_invC _ lRy i hi
    have hT : cg (ev (root 8 1 i) (tRowS row s1 s2r)) ((rowS row s1 zeroPoly).getD i 0 + ev (root 8 1 i) s2r) := by
      unfold tRowS
      have li := invC_length _ lRs
      have := ev_zip_of_cg (fun x => x % Q) cg_mod (root 8 1 i) (invC (rowS row s1 zeroPoly)) s2r (by rw [li, ls2])
      exact this.trans ((ev_invC _ lRs i hi).add (cg.refl _))
    exact ring_scalar _ _ _ (ev (root 8 1 i) c) _ _ (ev (root 8 1 i) s2r) _ _ _ _ _ _ _ _ _
      rz lin ry rs hw hT (ev_t1 (root 8 1 i) (tRowS row s1 s2r)) (nttS_getD c lc i hi) (nttS_getD _ lt1 i hi)
      (ev_cmul c s2r lc ls2 i hi) (ev_cmul c _ lc lt0 i hi)
  have hX := invC_cong _ _ key
  exact hX.symm.trans (invC_nttS _ lrhs)

end Fips204.Impl
