import Fips204.Lemmas.SignVerify
/-! The model's `key_gen_internal`, `sign_internal` and `verify_internal` together: a signature made with a generated private key
    verifies under the generated public key. Composition of C04 (what key generation stores), C03 (signing is Algorithm 7),
    the specification-level completeness theorem and C02 (verification is Algorithm 8). -/
namespace Fips204.Impl
open Fips204 Fips204.Gen Fips204.K

theorem genOk_sign (m : Mode) (O : Oracles) (hO : OracleOk O) (p : ParamSet) (blz : Nat) (cfg : VerCfg p blz)
    (hk8 : 1 ≤ p.k ∧ p.k ≤ 8) (he : p.eta = 2 ∨ p.eta = 4) (fuel : Nat) (hfuel : fuel * p.l ≤ 65535)
    (kp : PublicKey × PrivateKey) (hgen : GenOk m O p kp) (msg ctx oid phm rnd : List Nat) (nist : Bool) (out : SignOut)
    (hs : signInternal m O false p fuel kp.2 msg ctx oid phm rnd nist = .ok out) :
    ∃ s1 s2 aHat t, t = List.zipWith (fun row s2r => tRowS row s1 s2r) aHat s2 ∧
      expandA m O false p kp.1.rho = .ok aHat ∧ MatIn p.k p.l aHat ∧ VecIn p.l (-p.eta) p.eta s1 ∧ VecIn p.k (-p.eta) p.eta s2 ∧
      VecIn p.k 0 1023 (t.map fun q => q.map fun x => (Spec.power2round x).1) ∧
      precomputeT1 m (t.map fun q => q.map fun x => (Spec.power2round x).1) = .ok kp.1.t1d2 ∧
      signSpec m O p fuel kp.1.rho kp.2.key kp.2.tr s1 s2 (t.map fun q => q.map fun x => (Spec.power2round x).2) msg ctx oid phm rnd nist = .ok out ∧
      out.sig.length = p.sigLen ∧ ∀ b ∈ out.sig, b < 256 := by
  obtain ⟨s1, s2, aHat, hexp, hA, v1, v2, v0, vt, n1, n2, n0, pc⟩ := genOk_vectors m O p he cfg.l7 kp hgen
  have hsig := signInternal_eq_spec m O hO p blz cfg hk8 (eta_le_four he) fuel hfuel kp.2 s1 s2 _
    ⟨hgen.sk.rho, v1, v2, v0, n1, n2, n0⟩ msg ctx oid phm rnd nist
  rw [hs, hgen.lens.2.2.1] at hsig
  obtain ⟨_, _, _, _, _, sl, sb, _⟩ := signSpec_out m O hO p blz cfg.sig cfg.beta.1 cfg.tau fuel kp.1.rho kp.2.key kp.2.tr s1 s2 _ aHat hexp
    (MatIn.sh hA) v1.1 v2.1 v0.1 msg ctx oid phm rnd nist out hsig.symm
  exact ⟨s1, s2, aHat, _, rfl, hexp, hA, v1, v2, vt, pc, hsig.symm, sl, sb⟩

theorem keygen_sign_verify (m : Mode) (O : Oracles) (hO : OracleOk O) (p : ParamSet) (blz : Nat) (cfg : VerCfg p blz)
    (hk8 : 1 ≤ p.k ∧ p.k ≤ 8) (he : p.eta = 2 ∨ p.eta = 4) (hpk : p.pkLen = 32 + 32 * p.k * blqd)
    (hg2 : p.gamma2 = 95232 ∨ p.gamma2 = 261888) (hbeta : p.beta = p.eta * p.tau) (hbg : p.beta ≤ p.gamma2)
    (fuel : Nat) (hfuel : fuel * p.l ≤ 65535) (xi : List Nat) (kp : PublicKey × PrivateKey)
    (hkg : keyGenInternal m O false p xi = .ok kp) (msg ctx oid phm rnd : List Nat) (nist : Bool) (out : SignOut)
    (hs : signInternal m O false p fuel kp.2 msg ctx oid phm rnd nist = .ok out) :
    verifyInternal m O false p kp.1 msg out.sig ctx oid phm nist = .ok true := by
  have hgen : GenOk m O p kp := (keyGenInternal_np m O hO p he cfg.l7 hpk xi).ok_elim hkg
  obtain ⟨s1, s2, aHat, _, rfl, hexp, hA, v1, v2, vt, pc, hsig, sl, sb⟩ := genOk_sign m O hO p blz cfg hk8 he fuel hfuel kp hgen msg ctx oid phm rnd nist out hs
  have hver := sign_verify_spec m O hO p blz cfg.sig hg2 hbeta hbg cfg.tau (eta_le_four he) fuel kp.1.rho kp.2.key kp.2.tr
    s1 s2 aHat hexp hA.len256 hA.1 v1.1 v2.1 v2.2 msg ctx oid phm rnd nist out hsig
  rw [hgen.lens.2.2.2] at hver
  rw [verifyInternal_eq_spec m O hO false p blz cfg kp.1 _ hgen.pk.rho vt pc msg out.sig ctx oid phm nist sb sl]
  exact hver

end Fips204.Impl
