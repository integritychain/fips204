import Fips204.Lemmas.Kernels
import Fips204.Lemmas.Decompose
/-! The generated kernels of rounding and hints (`decompose`, `high_bits`, `low_bits`, `make_hint`, `use_hint`, `power2round`) and the two
    coefficient samplers (`coeff_from_three_bytes`, `coeff_from_half_byte`) equal the FIPS 204 functions of `Spec/Arith.lean`, on their
    documented ranges and in both build modes. -/
namespace Fips204.K
open Fips204 Fips204.Gen

/-- the multiply-shift quotients of `decompose` are the rounded quotients `⌊(r + gamma2 - 1) / (2 gamma2)⌋` -/
theorem r1_44 (rp : Int) (h0 : 0 ≤ rp) (h1 : rp < 8380417) :
    (((rp + 127) / 128) * 11275 + 8388608) / 16777216 = (rp + 95231) / 190464 := by omega

theorem r1_65 (rp : Int) (h0 : 0 ≤ rp) (h1 : rp < 8380417) :
    (((rp + 127) / 128) * 1025 + 2097152) / 4194304 = (rp + 261887) / 523776 := by omega

/-- `decompose` and `use_hint` tell the two parameter values apart by bit 17 of gamma2 -/
theorem bit17_44 : band .i32 95232 131072 = 0 := by decide +kernel
theorem bit17_65 : band .i32 261888 131072 = 131072 := by decide +kernel

theorem clear44 (k : Int) (h0 : 0 ≤ k) (h1 : k ≤ 44) :
    bxor .i32 k (band .i32 ((43 - k) / 2147483648) k) = if k = 44 then 0 else k := by
  rw [band32_signmask _ _ (by omega) (by omega) (by omega) (by omega)]
  by_cases h : k = 44
  · subst h; decide +kernel
  · rw [if_neg (by omega), if_neg h, bxor32_zero _ (by omega) (by omega)]

/-- `r mod q` has its interval index `k` (`Spec.bits_view`), folded onto `j` in `[0, m - 1]`.  The kernel is `xr1 >>= rest`: the
    multiply-shift quotient of either parameter value returns `j`, and the rest runs on `j` for both -/
theorem decompose_eq (m : Mode) (g r : Int) (hg : G2 g) (h1 : -2143289344 < r) (h2 : r < 2143289344) :
    decompose m g r = .ok (Spec.decompose g r) := by
  obtain ⟨mm, hR, hmm, hg1, hg2⟩ : ∃ mm, Spec.Rnd g mm ∧ mm ≤ 44 ∧ 95232 ≤ g ∧ g ≤ 261888 := by
    rcases hg with rfl | rfl
    · exact ⟨44, Spec.rnd_44, by decide, by decide, by decide⟩
    · exact ⟨16, Spec.rnd_65, by decide, by decide, by decide⟩
  obtain ⟨k, k0, km, hk1, hk2, -, -⟩ := Spec.bits_view hR r
  rw [Spec.decompose_of_idx hR hk1 hk2]
  unfold decompose
  simp only [full_reduce32_eq m r h1 h2, ok_bind]
  have hq : 0 ≤ r % Q ∧ r % Q < Q := ⟨Int.emod_nonneg _ (by decide), Int.emod_lt_of_pos _ (by decide)⟩
  obtain ⟨hg0, hM⟩ := hR
  simp only [Q] at *
  generalize hrp : r % 8380417 = rp at *
  clear h1 h2
  obtain ⟨j, hj⟩ : ∃ j, (if k = mm then 0 else k) = j := ⟨_, rfl⟩
  refine (congrArg (· >>= _) (?_ : _ = Except.ok j)).trans ?_
  · rcases hg with rfl | rfl
    · obtain rfl : mm = 44 := by omega
      have hk : (rp + 95231) / 190464 = k := by omega
      simp only [bit17_44, decide_true, if_true]
      simp (disch := omega) only [r1_44, hk, arith_i32, pure_eq, ok_bind, clear44]
      rw [hj]
    · obtain rfl : mm = 16 := by omega
      have hk : (rp + 261887) / 523776 = k := by omega
      simp only [bit17_65, show (decide ((131072:Int) = 0)) = false by decide, Bool.false_eq_true, if_false]
      simp (disch := omega) only [r1_65, hk, arith_i32, pure_eq, ok_bind, band32_15]
      congr 1
      split at hj <;> omega
  · -- `P` is `xr1 * 2 * gamma2`, the one product of two variables: `omega` takes it as an atom, with the bounds it needs
    obtain ⟨P, hP⟩ : ∃ P, j * 2 * g = P := ⟨_, rfl⟩
    have hj1 : 0 ≤ j ∧ j ≤ 43 := by split at hj <;> omega
    have hPk : P = (if k = mm then 0 else 2 * g * k) ∧ 0 ≤ P ∧ P + 2 * g ≤ 8380416 := by
      by_cases h : k = mm
      · rw [if_pos h] at hj ⊢
        subst hj
        omega
      · rw [if_neg h] at hj ⊢
        subst hj
        have e : k * 2 * g = 2 * g * k := by rw [Int.mul_comm k 2, Int.mul_assoc, Int.mul_comm k g, ← Int.mul_assoc]
        have := Spec.two_mul_succ_le_of_lt hg0 (show k + 1 ≤ mm by omega)
        have := Int.mul_nonneg (show 0 ≤ 2 * g by omega) k0
        omega
    ksimp [hrp, hP]
    by_cases h : k = mm <;> (simp only [h, if_true, if_false] at hj hPk hk1 ⊢; subst hj; congr 2; omega)

theorem high_bits_eq (m : Mode) (g r : Int) (hg : G2 g) (h1 : -2143289344 < r) (h2 : r < 2143289344) :
    high_bits m g r = .ok (Spec.highBits g r) := by
  unfold high_bits Spec.highBits
  simp only [decompose_eq m g r hg h1 h2, pure_eq, ok_bind]

theorem low_bits_eq (m : Mode) (g r : Int) (hg : G2 g) (h1 : -2143289344 < r) (h2 : r < 2143289344) :
    low_bits m g r = .ok (Spec.lowBits g r) := by
  unfold low_bits Spec.lowBits
  simp only [decompose_eq m g r hg h1 h2, pure_eq, ok_bind]

theorem make_hint_eq (m : Mode) (g z r : Int) (hg : G2 g) (h1 : -2143289344 < r) (h2 : r < 2143289344)
    (h3 : -2143289344 < r + z) (h4 : r + z < 2143289344) :
    make_hint m g z r = .ok (Spec.makeHint g z r) := by
  unfold make_hint Spec.makeHint
  simp (disch := omega) only [high_bits_eq m g r hg h1 h2, high_bits_eq m g (r + z) hg h3 h4, arith_i32,
    pure_eq, ok_bind]

theorem use_hint_one_44 (m : Mode) (r : Int) (h1 : -2143289344 < r) (h2 : r < 2143289344) :
    use_hint m 95232 1 r = .ok (Spec.useHint 95232 1 r) := by
  have hr := Spec.rnd_44.highBits_range r
  rw [Spec.useHint_one Spec.rnd_44]
  unfold use_hint Spec.highBits Spec.lowBits at *
  simp only [decompose_eq m 95232 r (Or.inl rfl) h1 h2, pure_eq, ok_bind, bit17_44, show (decide ((1:Int) = 0)) = false by decide,
    Bool.false_eq_true, if_false, decide_true, if_true, decide_eq_true_eq]
  generalize Spec.decompose 95232 r = d at *
  obtain ⟨r1, r0⟩ := d
  dsimp only at *
  split
  · split
    · rw [if_pos (by omega)]
    · rw [if_neg (by omega)]; exact arith_i32 _ _ _ (by omega) (by omega)
  · split
    · rfl
    · exact arith_i32 _ _ _ (by omega) (by omega)

theorem use_hint_one_65 (m : Mode) (r : Int) (h1 : -2143289344 < r) (h2 : r < 2143289344) :
    use_hint m 261888 1 r = .ok (Spec.useHint 261888 1 r) := by
  have hr := Spec.rnd_65.highBits_range r
  rw [Spec.useHint_one Spec.rnd_65]
  unfold use_hint Spec.highBits Spec.lowBits at *
  simp only [decompose_eq m 261888 r (Or.inr rfl) h1 h2, pure_eq, ok_bind, bit17_65, show (decide ((1:Int) = 0)) = false by decide,
    show (decide ((131072:Int) = 0)) = false by decide, Bool.false_eq_true, if_false, decide_eq_true_eq]
  generalize Spec.decompose 261888 r = d at *
  obtain ⟨r1, r0⟩ := d
  dsimp only at *
  -- the crate's `& 15` is the standard's wrap-around of the 16 values
  split
  · rw [arith_i32 _ _ _ (by omega) (by omega), ok_bind, band32_15 _ (by omega) (by omega)]
    split <;> (congr 1; omega)
  · rw [arith_i32 _ _ _ (by omega) (by omega), ok_bind]
    split
    · subst r1
      exact congrArg _ (band32_neg1 15 (by decide) (by decide))
    · rw [band32_15 _ (by omega) (by omega)]
      congr 1
      omega

/-- with `h = 0` the kernel returns the high bits before it looks at gamma2 -/
theorem use_hint_eq (m : Mode) (g h r : Int) (hg : G2 g) (hh : h = 0 ∨ h = 1)
    (h1 : -2143289344 < r) (h2 : r < 2143289344) :
    use_hint m g h r = .ok (Spec.useHint g h r) := by
  rcases hh with rfl | rfl
  · rw [Spec.useHint_zero]
    unfold use_hint Spec.highBits
    simp only [decompose_eq m g r hg h1 h2, ok_bind, decide_true, if_true, pure_eq]
  · rcases hg with rfl | rfl
    · exact use_hint_one_44 m r h1 h2
    · exact use_hint_one_65 m r h1 h2

/-- `high_low.rs` has no scalar `power2round`: it computes `r1` and `r0` in two comprehensions (`power2round_r1`, `power2round_r0`),
    the second from the result of the first -/
theorem power2round_parts (m : Mode) (r : Int) (h0 : 0 ≤ r) (h1 : r < 8380417) :
    power2round_r1 m r = .ok (Spec.power2round r).1 ∧ power2round_r0 m r (Spec.power2round r).1 = .ok (Spec.power2round r).2 := by
  obtain ⟨hs, hl, hu, -, -⟩ := Spec.power2round_spec r
  rw [show r % Q = r from Int.emod_eq_of_lt h0 h1] at hs
  generalize (Spec.power2round r).1 = r1 at *
  generalize (Spec.power2round r).2 = r0 at *
  -- the kernel's `(r + 2^12 - 1) >> 13` and remainder are that decomposition, which is unique
  unfold power2round_r1 power2round_r0
  have hw := wrap32_id (r1 * 8192) (by omega) (by omega)
  constructor
  · ksimp
    congr 1
    omega
  · ksimp [hw]
    congr 1
    omega

/-- the two on one coefficient are Algorithm 35 -/
theorem power2round_eq (m : Mode) (r : Int) (h0 : 0 ≤ r) (h1 : r < 8380417) :
    (do let r1 ← power2round_r1 m r; let r0 ← power2round_r0 m r r1; pure (r1, r0)) = .ok (Spec.power2round r) := by
  obtain ⟨e1, e0⟩ := power2round_parts m r h0 h1
  rw [e1, ok_bind, e0, ok_bind, pure_eq]

theorem power2round_check_eq (m : Mode) (r : Int) (h0 : 0 ≤ r) (h1 : r < 8380417) :
    power2round_check m r (Spec.power2round r).1 (Spec.power2round r).2 = .ok true := by
  obtain ⟨hs, hl, hu, hr0, hr1⟩ := Spec.power2round_spec r
  rw [show r % Q = r from Int.emod_eq_of_lt h0 h1] at hs
  generalize (Spec.power2round r).1 = r1 at *
  generalize (Spec.power2round r).2 = r0 at *
  unfold power2round_check
  rw [wrap32_id _ (by omega) (by omega)]
  ksimp
  exact congrArg _ (decide_eq_true hs.symm)

/-- CoeffFromThreeBytes in either mode: the constant-time test mode keeps 6 bits of the top byte instead of 7, so that
    `z < q` always holds -/
theorem coeff3_ctest_eq (m : Mode) (ctest : Bool) (b0 b1 b2 : Int) (h0 : 0 ≤ b0 ∧ b0 ≤ 255) (h1 : 0 ≤ b1 ∧ b1 ≤ 255)
    (h2 : 0 ≤ b2 ∧ b2 ≤ 255) :
    coeff_from_three_bytes m ctest b0 b1 b2 = .ok (Spec.coeffFromThreeBytes b0 b1 (if ctest then b2 % 64 else b2)) := by
  unfold coeff_from_three_bytes Spec.coeffFromThreeBytes
  have asm : ∀ c : Int, 0 ≤ c → c ≤ 127 →
      bor .i32 (bor .i32 (IT.i32.wrap (c * 65536)) (IT.i32.wrap (b1 * 256))) b0 = 65536 * c + 256 * b1 + b0 := by
    intro c hc0 hc1
    rw [wrap32_id (c * 65536) (by omega) (by omega), wrap32_id (b1 * 256) (by omega) (by omega),
      bor_add .i32 (c * 65536) (b1 * 256) 65536 16 (by decide) (by omega) (by omega) (by omega) (by omega) (show _ ≤ (2147483647 : Int) by omega),
      bor_add .i32 (c * 65536 + b1 * 256) b0 256 8 (by decide) (by omega) (by omega) (by omega) (by omega) (show _ ≤ (2147483647 : Int) by omega)]
    omega
  have e0 : band .u8 b2 127 = b2 % 128 := band_low .u8 b2 127 7 (by decide) (by decide) h2.1 h2.2
  cases ctest
  · have e3 : (if b2 > 127 then b2 - 128 else b2) = b2 % 128 := by split <;> omega
    simp only [Q, Bool.false_eq_true, if_false, pure_eq, ok_bind, e0, asm (b2 % 128) (by omega) (by omega), e3, decide_eq_true_eq]
    split <;> rfl
  · have e0' : band .i32 (b2 % 128) 63 = b2 % 64 :=
      (band_low .i32 (b2 % 128) 63 6 (by decide) (by decide) (by omega) (show _ ≤ (2147483647 : Int) by omega)).trans
        (Int.emod_emod_of_dvd b2 (by decide))
    have e3 : (if b2 % 64 > 127 then b2 % 64 - 128 else b2 % 64) = b2 % 64 := if_neg (by omega)
    simp only [Q, if_true, pure_eq, ok_bind, e0, e0', asm (b2 % 64) (by omega) (by omega), e3, decide_eq_true_eq]
    split <;> rfl

theorem coeff3_eq (m : Mode) (b0 b1 b2 : Int) (h0 : 0 ≤ b0 ∧ b0 ≤ 255) (h1 : 0 ≤ b1 ∧ b1 ≤ 255)
    (h2 : 0 ≤ b2 ∧ b2 ≤ 255) :
    coeff_from_three_bytes m false b0 b1 b2 = .ok (Spec.coeffFromThreeBytes b0 b1 b2) :=
  coeff3_ctest_eq m false b0 b1 b2 h0 h1 h2

theorem coeff3_ctest_some (m : Mode) (b0 b1 b2 : Int) (h0 : 0 ≤ b0 ∧ b0 ≤ 255) (h1 : 0 ≤ b1 ∧ b1 ≤ 255)
    (h2 : 0 ≤ b2 ∧ b2 ≤ 255) :
    coeff_from_three_bytes m true b0 b1 b2 = .ok (some (65536 * (b2 % 64) + 256 * b1 + b0)) := by
  rw [coeff3_ctest_eq m true b0 b1 b2 h0 h1 h2]
  unfold Spec.coeffFromThreeBytes
  simp only [Q, if_true]
  rw [if_neg (show ¬ b2 % 64 > 127 by omega), if_pos (by omega)]

/-- CoeffFromHalfByte in either mode: the constant-time test mode keeps 3 bits of the nibble, so that no branch rejects -/
theorem coeffhalf_ctest_eq (m : Mode) (ctest : Bool) (eta b : Int) (he : eta = 2 ∨ eta = 4) (hb : 0 ≤ b ∧ b ≤ 15) :
    coeff_from_half_byte m ctest eta b = .ok (Spec.coeffFromHalfByte eta (if ctest then b % 8 else b)) := by
  unfold coeff_from_half_byte Spec.coeffFromHalfByte
  have hm : band .u8 b 7 = b % 8 := band_low .u8 b 7 3 (by decide) (by decide) hb.1 (show _ ≤ (255 : Int) by omega)
  obtain ⟨c, hc⟩ : ∃ c, (if ctest then b % 8 else b) = c := ⟨_, rfl⟩
  have hc1 : 0 ≤ c ∧ c ≤ 15 := by split at hc <;> omega
  have ec : (if ctest = true then (Except.ok (b % 8) : M Int) else .ok b) = .ok c := by
    rw [← hc]; split <;> rfl
  simp only [pure_eq, hm, ec, hc]
  clear hm ec hc
  -- the two assertions hold and one `eta` branch is dead; then the live branch, by the test it makes on `c`
  rcases he with rfl | rfl
  · simp only [decide_true, decide_false, Int.reduceEq, Bool.or_false, Bool.true_and, Bool.false_and, Bool.false_eq_true, if_false,
      true_and, false_and, dassertM_true, ok_bind, decide_eq_true_eq]
    rw [dassertM_dec m _ _ (show b < 16 by omega), ok_bind]
    split
    · ksimp
      congr 3
      omega
    · rfl
  · simp only [decide_true, decide_false, Int.reduceEq, Bool.or_true, Bool.true_and, Bool.false_and, Bool.false_eq_true, if_false,
      true_and, false_and, dassertM_true, ok_bind, decide_eq_true_eq]
    rw [dassertM_dec m _ _ (show b < 16 by omega), ok_bind]
    split
    · ksimp
    · rfl

theorem coeffhalf_eq (m : Mode) (eta b : Int) (he : eta = 2 ∨ eta = 4) (hb : 0 ≤ b ∧ b ≤ 15) :
    coeff_from_half_byte m false eta b = .ok (Spec.coeffFromHalfByte eta b) :=
  coeffhalf_ctest_eq m false eta b he hb

theorem lowBits_pr32 (g x : Int) (h1 : -2143289344 < x) (h2 : x < 2143289344) : Spec.lowBits g (pr32 x) = Spec.lowBits g x :=
  Spec.lowBits_mod g _ _ (pr32_mod x h1 h2)

theorem makeHint_pr32 (g c0 x : Int) (h1 : -2143289344 < x) (h2 : x < 2143289344) :
    Spec.makeHint g (Q - c0) (pr32 x) = Spec.makeHint g (-c0) x := by
  have e := pr32_mod x h1 h2
  exact Spec.makeHint_mod g _ _ _ _ e (by simp only [Q] at *; omega)

theorem modpm_pr32 (x : Int) (h1 : -2143289344 < x) (h2 : x < 2143289344) : modpm Q (pr32 x) = modpm Q x :=
  Spec.modpm_mod _ _ (pr32_mod x h1 h2)

end Fips204.K

namespace Fips204.Impl
open Fips204 Fips204.Gen Fips204.K

/-- one round bound for both parameter values: `|LowBits(r)| ≤ gamma2 ≤ 261888` -/
theorem lowBits_range (g r : Int) (hg : G2 g) : -300000 < Spec.lowBits g r ∧ Spec.lowBits g r < 300000 := by
  have := hg.rnd.lowBits_range r
  rcases hg with rfl | rfl <;> omega

end Fips204.Impl
