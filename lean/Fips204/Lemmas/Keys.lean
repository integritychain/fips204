import Fips204.Lemmas.KeygenOk
/-! The key structs and their byte strings.  Through the NTT-domain representation, `into_bytes ∘ try_from_bytes = id` for private
    and public keys; what `key_gen_internal` returns, in terms of the vectors it sampled, serialises without a panic and
    deserialises to the same structs. -/
namespace Fips204.Impl
open Fips204 Fips204.Gen Fips204.K

theorem skIntoBytes_of (m : Mode) (p : ParamSet) (he : 0 ≤ p.eta ∧ p.eta ≤ 4) {sk : PrivateKey} {s1 s2 t0 : List Poly} (h : SkOf m p sk s1 s2 t0) :
    skIntoBytes m p sk = skEncode m p { rho := sk.rho, key := sk.key, tr := sk.tr, s1 := s1, s2 := s2, t0 := t0 } := by
  unfold skIntoBytes
  rw [unMont_nttMont m h.v1 (by omega) (by omega) h.n1, ok_bind, unMont_nttMont m h.v2 (by omega) (by omega) h.n2, ok_bind,
    unMont_nttMont m h.v0 (by omega) (by omega) h.n0, ok_bind]

theorem skIntoBytes_expandPrivate (m : Mode) (p : ParamSet) (skb : List Nat) (hb : ∀ x ∈ skb, x < 256)
    (he : p.eta = 2 ∨ p.eta = 4) (bl : Nat) (hbl : bitLen m (2 * p.eta) = .ok bl)
    (hlen : skb.length = 128 + 32 * ((p.k + p.l) * bl + D.toNat * p.k)) (hcfg : p.skLen = skb.length)
    (sk : PrivateKey) (h : expandPrivate m p skb = .ok (some sk)) : skIntoBytes m p sk = .ok skb := by
  have eta4 := eta_le_four he
  obtain ⟨d, hr, e1, e2, e3, hof⟩ := expandPrivate_skOf m p eta4 skb sk h
  rw [skIntoBytes_of m p eta4 hof, e1, e2, e3]
  exact skEncode_skDecode m p skb hb he bl hbl hlen hcfg d hr

theorem precompute_round (m : Mode) (t1 : List Poly) (ht : ∀ q ∈ t1, q.length = 256 ∧ ∀ x ∈ q, 0 ≤ x ∧ x ≤ 1023) :
    ∃ r a b, precomputeT1 m t1 = .ok r ∧ r.mapM (fun q : Poly => q.mapM (mont_reduce m)) = .ok a ∧ invNtt m a = .ok b ∧
      b.map (fun q => q.map (fun x => x / 2 ^ D.toNat)) = t1 := by
  obtain ⟨r, hr, hS⟩ := precomputeT1_stored m t1 fun q hq => (ht q hq).2
  obtain ⟨a, ha, hb⟩ := bind_ok_inv (stored_invNtt m hS fun y hy => by
    obtain ⟨q, hq, rfl⟩ := List.mem_map.mp hy
    rw [List.length_map]
    exact (ht q hq).1)
  refine ⟨r, a, _, hr, ha, hb, ?_⟩
  -- `8192 t` is its own canonical representative for `0 ≤ t ≤ 1023`
  rw [List.map_map, List.map_map]
  refine (List.map_congr_left fun q hq => ?_).trans (List.map_id t1)
  simp only [Function.comp, canon, List.map_map]
  refine (List.map_congr_left fun x hx => ?_).trans (List.map_id q)
  have := (ht q hq).2 x hx
  simp only [Function.comp, id, show (2:Int) ^ D.toNat = 8192 by decide]
  omega

theorem pkIntoBytes_of (m : Mode) (p : ParamSet) (pk : PublicKey) {n : Nat} {t1 : List Poly}
    (ht : VecIn n 0 1023 t1) (hp : precomputeT1 m t1 = .ok pk.t1d2) :
    pkIntoBytes m p pk = pkEncode m p pk.rho t1 := by
  obtain ⟨r, a, b, h1, h2, h3, h4⟩ := precompute_round m t1 fun q hq => ht.poly hq
  rw [hp] at h1
  rw [← ok_inj h1] at h2
  unfold pkIntoBytes
  simp only []
  rw [h2, ok_bind, h3, ok_bind, h4]

theorem pkIntoBytes_expandPublic (m : Mode) (O : Oracles) (p : ParamSet) (pkb : List Nat) (hb : ∀ x ∈ pkb, x < 256)
    (hlen : pkb.length = 32 + 32 * p.k * blqd) (hcfg : p.pkLen = 32 + 32 * p.k * blqd) :
    ∃ pk, expandPublic m O p pkb = .ok (some pk) ∧ pkIntoBytes m p pk = .ok pkb := by
  obtain ⟨d, r, hd, hr, h, _, vt, _⟩ := expandPublic_eq m O p pkb hb hlen hcfg
  refine ⟨_, h, ?_⟩
  rw [pkIntoBytes_of m p _ vt hr]
  exact pkEncode_pkDecode m p pkb hb hlen hcfg d hd

theorem gen_roundtrip_struct (m : Mode) (O : Oracles) (p : ParamSet) (he : p.eta = 2 ∨ p.eta = 4) (bl : Nat) (hbl : bitLen m (2 * p.eta) = .ok bl)
    (hcfg : p.skLen = 128 + 32 * ((p.k + p.l) * bl + D.toNat * p.k)) (hpcfg : p.pkLen = 32 + 32 * p.k * blqd)
    (kp : PublicKey × PrivateKey) (hg : GenOk m O p kp) :
    ∃ pkb skb, pkIntoBytes m p kp.1 = .ok pkb ∧ pkb.length = p.pkLen ∧ expandPublic m O p pkb = .ok (some kp.1) ∧
      skIntoBytes m p kp.2 = .ok skb ∧ skb.length = p.skLen ∧ expandPrivate m p skb = .ok (some kp.2) := by
  obtain ⟨s1, s2, t0, t1, pkb, hof, vt, pc, pe, htr⟩ := hg.skOf
  have eta4 := eta_le_four he
  obtain ⟨skb, se, hskl⟩ := skEncode_ok m p he bl hbl hcfg { rho := kp.2.rho, key := kp.2.key, tr := kp.2.tr, s1 := s1, s2 := s2, t0 := t0 }
    hg.sk.rho hg.lens.1 hg.lens.2.1 hof.v1 hof.v2 hof.v0.top
  obtain ⟨hpl, hpd⟩ := pkDecode_pkEncode m p hpcfg kp.1.rho t1 hg.pk.rho vt pkb pe
  have hsd := skDecode_skEncode m p he bl hbl hcfg { rho := kp.2.rho, key := kp.2.key, tr := kp.2.tr, s1 := s1, s2 := s2, t0 := t0 }
    hg.sk.rho hg.lens.1 hg.lens.2.1 hof.v1 hof.v2 hof.v0.top skb se
  refine ⟨pkb, skb, ?_, hpl, ?_, ?_, hskl, ?_⟩
  · rw [pkIntoBytes_of m p kp.1 vt pc]; exact pe
  · unfold expandPublic
    rw [hpd, ok_bind]
    simp only []
    rw [pc, ok_bind, pure_eq, ← htr]
  · rw [skIntoBytes_of m p eta4 hof]; exact se
  · unfold expandPrivate
    rw [hsd, ok_bind]
    simp only []
    rw [hof.n1, ok_bind, hof.n2, ok_bind, hof.n0, ok_bind, pure_eq]

end Fips204.Impl
