import Fips204.Lemmas.SpecEncode
/-! The key and signature codecs of the standard (`Spec/Codec.lean`: Algorithms 22-27) are mutually inverse, as statements about list functions
    only: an encoding is a header followed by sections, and a section of packed polynomials is re-packed to the bytes it was read from and
    re-read as the polynomials it was packed from (Algorithms 16-19 are mutually inverse, `Lemmas/SpecCodec`). -/
namespace Fips204.Impl
open Fips204 Fips204.Gen

theorem take_drop_split {α} (l : List α) (a n b : Nat) (h : a + n = b) : (l.drop a).take n ++ l.drop b = l.drop a := by
  rw [← h, ← List.drop_drop, List.take_append_drop]

theorem flatten_slices (bytes : List Nat) (start step : Nat) : ∀ l : Nat, start + l * step ≤ bytes.length →
    ((List.range l).map (fun i => (bytes.drop (start + i * step)).take step)).flatten = (bytes.drop start).take (l * step) := by
  intro l
  induction l with
  | zero => intro _; simp
  | succ l ih =>
    intro h
    have h' : start + l * step ≤ bytes.length := by rw [Nat.add_mul, Nat.one_mul] at h; omega
    rw [List.range_succ, List.map_append, List.flatten_append, ih h', Nat.add_mul, Nat.one_mul, List.take_add, List.drop_drop]
    simp

theorem slice_in_concat {α} (L : Nat) (post : List α) : ∀ (cs : List (List α)) (pre : List α), (∀ c ∈ cs, c.length = L) → ∀ i (hi : i < cs.length),
    ((pre ++ cs.flatten ++ post).drop (pre.length + i * L)).take L = cs[i]
  | [], _, _, _, hi => nomatch hi
  | c :: cs, pre, h, 0, _ => by
    rw [Nat.zero_mul, Nat.add_zero, List.flatten_cons, List.append_assoc, List.append_assoc, ← h c (List.mem_cons_self ..), take_drop_mid,
      List.getElem_cons_zero]
  | c :: cs, pre, h, j + 1, hi => by
    have e : pre.length + (j + 1) * L = (pre ++ c).length + j * L := by
      rw [List.length_append, h c (List.mem_cons_self ..), Nat.add_mul, Nat.one_mul]
      omega
    rw [List.flatten_cons, ← List.append_assoc pre, e, List.getElem_cons_succ]
    exact slice_in_concat L post cs (pre ++ c) (fun x hx => h x (List.mem_cons_of_mem _ hx)) j (Nat.lt_of_succ_lt_succ hi)

theorem section_repack (g : List Int → List Nat) (u : List Nat → List Int) (step : Nat)
    (hgu : ∀ v : List Nat, (∀ x ∈ v, x < 256) → v.length = step → g (u v) = v)
    (bytes : List Nat) (hb : ∀ x ∈ bytes, x < 256) (start n : Nat) (hlen : start + n * step ≤ bytes.length) :
    (((List.range n).map (fun i => u ((bytes.drop (start + i * step)).take step))).map g).flatten = (bytes.drop start).take (n * step) := by
  rw [List.map_map, ← flatten_slices bytes start step n hlen]
  congr 1
  refine List.map_congr_left fun i hi => hgu _ (fun x hx => hb x (mem_of_mem_slice _ _ _ _ hx)) ?_
  have := section_le start step n _ i hlen (List.mem_range.mp hi)
  rw [Nat.add_mul, Nat.one_mul] at this
  rw [List.length_take, List.length_drop]
  omega

theorem section_reread (g : List Int → List Nat) (u : List Nat → List Int) (step : Nat) (v : List Poly)
    (hug : ∀ w ∈ v, u (g w) = w) (hgl : ∀ w, (g w).length = step) (pre post : List Nat) :
    (List.range v.length).map (fun i => u (((pre ++ (v.map g).flatten ++ post).drop (pre.length + i * step)).take step)) = v := by
  refine List.ext_getElem (by simp) fun i h1 h2 => ?_
  have hi : i < (v.map g).length := by simpa using h2
  rw [List.getElem_map, List.getElem_range,
    slice_in_concat step post _ pre (fun c hc => by obtain ⟨w, _, rfl⟩ := List.mem_map.mp hc; exact hgl w) i hi, List.getElem_map]
  exact hug _ (List.getElem_mem h2)

theorem section_inj (g : List Int → List Nat) (u : List Nat → List Int) (step : Nat) (v v' : List Poly) (hl : v.length = v'.length)
    (hug : ∀ w ∈ v, u (g w) = w) (hug' : ∀ w ∈ v', u (g w) = w) (hgl : ∀ w, (g w).length = step)
    (h : (v.map g).flatten = (v'.map g).flatten) : v = v' := by
  rw [← section_reread g u step v hug hgl [] [], ← section_reread g u step v' hug' hgl [] [], h, hl]

section
variable {rho : List Nat} {t1 : List Poly}

theorem spec_pkEncode_length {k : Nat} (hr : rho.length = 32) (ht : t1.length = k) : (Spec.pkEncode rho t1).length = 32 + k * (32 * 10) := by
  rw [Spec.pkEncode, List.length_append, hr, section_length (Spec.simpleBitPack 10) _ (fun _ => bitsToBytes_length _ _), ht]

theorem spec_pkEncode_tail_lt (hr : rho.length = 32) : ∀ x ∈ (Spec.pkEncode rho t1).drop 32, x < 256 := by
  rw [Spec.pkEncode, List.drop_left' hr]
  exact section_lt _ (spec_pack_lt 10 _) t1

theorem spec_pkEncode_lt (hrho : ∀ x ∈ rho, x < 256) : ∀ x ∈ Spec.pkEncode rho t1, x < 256 :=
  List.forall_mem_append.mpr ⟨hrho, section_lt _ (spec_pack_lt 10 _) t1⟩

end

theorem spec_pkEncode_pkDecode (k : Nat) (pk : List Nat) (hb : ∀ x ∈ pk, x < 256) (hlen : pk.length = 32 + k * (32 * 10)) :
    Spec.pkEncode (Spec.pkDecode k pk).1 (Spec.pkDecode k pk).2 = pk := by
  unfold Spec.pkEncode Spec.pkDecode
  rw [show (320 : Nat) = 32 * 10 from rfl,
    section_repack (Spec.simpleBitPack 10) (Spec.simpleBitUnpack 10) (32 * 10) (spec_simpleBitPack_simpleBitUnpack 10) pk hb 32 k
      (Nat.le_of_eq hlen.symm),
    List.take_of_length_le (l := pk.drop 32) (by rw [List.length_drop]; omega), List.take_append_drop]

theorem spec_pkDecode_pkEncode (k : Nat) (rho : List Nat) (t1 : List Poly) (hr : rho.length = 32) (ht : VecIn k 0 1023 t1) :
    Spec.pkDecode k (Spec.pkEncode rho t1) = (rho, t1) := by
  have h := section_reread (Spec.simpleBitPack 10) (Spec.simpleBitUnpack 10) (32 * 10) t1
    (fun w hw => spec_simpleBitUnpack_simpleBitPack 10 1023 (by decide) w (fun c hc => by have := ht.2 w hw c hc; omega) (ht.1.2 w hw))
    (fun w => bitsToBytes_length _ _) rho []
  rw [List.append_nil, hr, ht.1.1] at h
  unfold Spec.pkDecode Spec.pkEncode
  rw [List.take_left' hr]
  exact congrArg (Prod.mk rho) h

theorem sk_header (rho key tr R : List Nat) (hr : rho.length = 32) (hk : key.length = 32) (ht : tr.length = 64) :
    (rho ++ key ++ tr ++ R).take 32 = rho ∧ ((rho ++ key ++ tr ++ R).drop 32).take 32 = key ∧ ((rho ++ key ++ tr ++ R).drop 64).take 64 = tr := by
  refine ⟨?_, ?_, ?_⟩
  · rw [List.append_assoc, List.append_assoc, List.take_left' hr]
  · rw [List.append_assoc, List.append_assoc, List.drop_left' hr, List.take_left' hk]
  · rw [List.append_assoc, List.drop_left' (by rw [List.length_append, hr, hk]), List.take_left' ht]

section
variable {c : Nat} {eta : Int} {rho key tr : List Nat} {s1 s2 t0 : List Poly}

theorem spec_skEncode_length {k l : Nat} (hr : rho.length = 32) (hk : key.length = 32) (ht : tr.length = 64) (h1 : s1.length = l)
    (h2 : s2.length = k) (h0 : t0.length = k) :
    (Spec.skEncode c eta rho key tr s1 s2 t0).length = 128 + l * (32 * c) + k * (32 * c) + k * (32 * 13) := by
  unfold Spec.skEncode
  simp only [List.length_append, hr, hk, ht, section_length (Spec.bitPack _ _) _ (fun _ => bitsToBytes_length _ _), h1, h2, h0]

theorem spec_skEncode_tail_lt (hr : rho.length = 32) (hk : key.length = 32) (ht : tr.length = 64) :
    ∀ x ∈ (Spec.skEncode c eta rho key tr s1 s2 t0).drop 128, x < 256 := by
  unfold Spec.skEncode
  rw [List.append_assoc, List.append_assoc, List.drop_left' (by rw [List.length_append, List.length_append, hr, hk, ht])]
  exact List.forall_mem_append.mpr ⟨section_lt _ (spec_pack_lt _ _) s1,
    List.forall_mem_append.mpr ⟨section_lt _ (spec_pack_lt _ _) s2, section_lt _ (spec_pack_lt _ _) t0⟩⟩

theorem spec_skEncode_lt (hrho : ∀ x ∈ rho, x < 256) (hkey : ∀ x ∈ key, x < 256) (htr : ∀ x ∈ tr, x < 256) :
    ∀ x ∈ Spec.skEncode c eta rho key tr s1 s2 t0, x < 256 := by
  unfold Spec.skEncode
  simp only [List.forall_mem_append]
  exact ⟨⟨⟨⟨⟨hrho, hkey⟩, htr⟩, section_lt _ (spec_pack_lt _ _) s1⟩, section_lt _ (spec_pack_lt _ _) s2⟩,
    section_lt _ (spec_pack_lt _ _) t0⟩

end

theorem spec_skEncode_skDecode (c : Nat) (eta : Int) (k l : Nat) (sk : List Nat) (hb : ∀ x ∈ sk, x < 256)
    (hlen : sk.length = 128 + l * (32 * c) + k * (32 * c) + k * (32 * 13)) :
    (let d := Spec.skDecode c eta k l sk
     Spec.skEncode c eta d.1 d.2.1 d.2.2.1 d.2.2.2.1 d.2.2.2.2.1 d.2.2.2.2.2) = sk := by
  unfold Spec.skEncode Spec.skDecode
  dsimp only
  rw [section_repack (Spec.bitPack c eta) (Spec.bitUnpack c eta) (32 * c) (spec_bitPack_bitUnpack c eta) sk hb 128 l (by omega),
    section_repack (Spec.bitPack c eta) (Spec.bitUnpack c eta) (32 * c) (spec_bitPack_bitUnpack c eta) sk hb _ k (by omega),
    section_repack (Spec.bitPack 13 4096) (Spec.bitUnpack 13 4096) (32 * 13) (spec_bitPack_bitUnpack 13 4096) sk hb _ k (by omega),
    List.take_of_length_le (l := sk.drop (128 + l * (32 * c) + k * (32 * c))) (by rw [List.length_drop]; omega)]
  simp only [List.append_assoc]
  rw [take_drop_split sk _ _ _ rfl, take_drop_split sk _ _ _ rfl, take_drop_split sk 64 64 128 rfl, take_drop_split sk 32 32 64 rfl,
    List.take_append_drop]

theorem spec_skDecode_skEncode (c : Nat) (eta : Int) (he : 0 < eta) (hc : eta + eta < 2 ^ c) (k l : Nat) (rho key tr : List Nat)
    (s1 s2 t0 : List Poly) (hr : rho.length = 32) (hk : key.length = 32) (ht : tr.length = 64)
    (h1 : VecIn l (-eta) eta s1) (h2 : VecIn k (-eta) eta s2) (h0 : VecIn k (-4095) 4096 t0) :
    Spec.skDecode c eta k l (Spec.skEncode c eta rho key tr s1 s2 t0) = (rho, key, tr, s1, s2, t0) := by
  have hl : ∀ {n : Nat} {v : List Poly} (hv : VecIn n (-eta) eta v), ((v.map (Spec.bitPack c eta)).flatten).length = n * (32 * c) := fun hv => by
    rw [section_length (Spec.bitPack c eta) _ (fun _ => bitsToBytes_length _ _), hv.1.1]
  have rd : ∀ {n : Nat} {v : List Poly} (hv : VecIn n (-eta) eta v) (pre post : List Nat),
      (List.range n).map (fun i => Spec.bitUnpack c eta
        (((pre ++ (v.map (Spec.bitPack c eta)).flatten ++ post).drop (pre.length + i * (32 * c))).take (32 * c))) = v := fun hv pre post => by
    have := section_reread (Spec.bitPack c eta) (Spec.bitUnpack c eta) (32 * c) _
      (fun w hw => spec_bitUnpack_bitPack eta eta c he hc w (hv.2 w hw) (hv.1.2 w hw)) (fun w => bitsToBytes_length _ _) pre post
    rwa [hv.1.1] at this
  have r0 := section_reread (Spec.bitPack 13 4096) (Spec.bitUnpack 13 4096) (32 * 13) t0
    (fun w hw => spec_bitUnpack_bitPack 4095 4096 13 (by decide) (by decide) w (h0.2 w hw) (h0.1.2 w hw)) (fun w => bitsToBytes_length _ _)
  rw [h0.1.1] at r0
  have hpre : (rho ++ key ++ tr).length = 128 := by rw [List.length_append, List.length_append, hr, hk, ht]
  have r1 := rd h1 (rho ++ key ++ tr) ((s2.map (Spec.bitPack c eta)).flatten ++ (t0.map (Spec.bitPack 13 4096)).flatten)
  have r2 := rd h2 (rho ++ key ++ tr ++ (s1.map (Spec.bitPack c eta)).flatten) (t0.map (Spec.bitPack 13 4096)).flatten
  have r0' := r0 (rho ++ key ++ tr ++ (s1.map (Spec.bitPack c eta)).flatten ++ (s2.map (Spec.bitPack c eta)).flatten) []
  rw [hpre, ← List.append_assoc] at r1
  rw [List.length_append, hpre, hl h1] at r2
  rw [List.length_append, List.length_append, hpre, hl h1, hl h2, List.append_nil] at r0'
  obtain ⟨e1, e2, e3⟩ := sk_header rho key tr ((s1.map (Spec.bitPack c eta)).flatten ++ (s2.map (Spec.bitPack c eta)).flatten ++
    (t0.map (Spec.bitPack 13 4096)).flatten) hr hk ht
  simp only [← List.append_assoc] at e1 e2 e3
  unfold Spec.skDecode Spec.skEncode
  rw [r1, r2, r0', e1, e2, e3]

theorem spec_skDecode_in (c : Nat) (eta : Int) (he : 0 < eta) (k l : Nat) (sk : List Nat) (hb : ∀ x ∈ sk.drop 128, x < 256)
    (hlen : sk.length = 128 + l * (32 * c) + k * (32 * c) + k * (32 * 13))
    (hr : (Spec.allInRange eta eta (Spec.skDecode c eta k l sk).2.2.2.1 && Spec.allInRange eta eta (Spec.skDecode c eta k l sk).2.2.2.2.1) = true) :
    VecIn l (-eta) eta (Spec.skDecode c eta k l sk).2.2.2.1 ∧ VecIn k (-eta) eta (Spec.skDecode c eta k l sk).2.2.2.2.1 ∧
    VecIn k (-4095) 4096 (Spec.skDecode c eta k l sk).2.2.2.2.2 := by
  obtain ⟨e1, e2, e0⟩ := spec_skDecode_vecs c eta (by omega) k l sk hb hlen
  rw [Bool.and_eq_true] at hr
  have rng : ∀ v : List Poly, Spec.allInRange eta eta v = true → ∀ q ∈ v, ∀ x ∈ q, -eta ≤ x ∧ x ≤ eta := fun v hv q hq =>
    (inR_iff eta eta q).mp (List.all_eq_true.mp hv q hq)
  refine ⟨⟨?_, rng _ hr.1⟩, ⟨?_, rng _ hr.2⟩, ?_⟩
  · rw [e1]
    exact map_decodeP_sh ..
  · rw [e2]
    exact map_decodeP_sh ..
  · rw [e0]
    exact map_decodeP_exact_in 4095 4096 13 (by decide) k _

section
variable {c : Nat} {gamma1 : Int} {omega : Nat} {ct : List Nat} {z h : List Poly}

theorem spec_sigEncode_length {lam4 l k : Nat} (hct : ct.length = lam4) (hz : z.length = l) (hy : (Spec.hintBitPack omega h).length = omega + k) :
    (Spec.sigEncode c gamma1 omega ct z h).length = lam4 + l * (32 * c) + omega + k := by
  rw [Spec.sigEncode, List.length_append, List.length_append, hct, section_length (Spec.bitPack c gamma1) _ (fun _ => bitsToBytes_length _ _), hz,
    hy, Nat.add_assoc (lam4 + _)]

theorem spec_sigEncode_tail_lt {lam4 : Nat} (hct : ct.length = lam4) (hy : ∀ x ∈ Spec.hintBitPack omega h, x < 256) :
    ∀ x ∈ (Spec.sigEncode c gamma1 omega ct z h).drop lam4, x < 256 := by
  rw [Spec.sigEncode, List.append_assoc, List.drop_left' hct]
  exact List.forall_mem_append.mpr ⟨section_lt _ (spec_pack_lt _ _) z, hy⟩

theorem spec_sigEncode_lt (hct : ∀ x ∈ ct, x < 256) (hy : ∀ x ∈ Spec.hintBitPack omega h, x < 256) :
    ∀ x ∈ Spec.sigEncode c gamma1 omega ct z h, x < 256 :=
  List.forall_mem_append.mpr ⟨List.forall_mem_append.mpr ⟨hct, section_lt _ (spec_pack_lt _ _) z⟩, hy⟩

end

theorem take_drop_take {α} (s : List α) {n a b : Nat} (hab : a + b ≤ n) : ((s.take n).drop a).take b = (s.drop a).take b := by
  rw [List.drop_take, List.take_take, Nat.min_eq_left (by omega)]

theorem spec_sigDecode_congr (lam4 l k omega c : Nat) (gamma1 : Int) (s s' : List Nat)
    (h : s.take (lam4 + l * (32 * c)) = s'.take (lam4 + l * (32 * c))) :
    (Spec.sigDecode lam4 l k omega c gamma1 s).1 = (Spec.sigDecode lam4 l k omega c gamma1 s').1 ∧
      (Spec.sigDecode lam4 l k omega c gamma1 s).2.1 = (Spec.sigDecode lam4 l k omega c gamma1 s').2.1 := by
  have w : ∀ a b, a + b ≤ lam4 + l * (32 * c) → (s.drop a).take b = (s'.drop a).take b := fun a b hab => by
    rw [← take_drop_take s hab, ← take_drop_take s' hab, h]
  refine ⟨w 0 lam4 (by omega), List.map_congr_left fun i hi => ?_⟩
  have := section_le lam4 (32 * c) l _ i (Nat.le_refl _) (List.mem_range.mp hi)
  rw [w _ _ (by rw [Nat.add_mul, Nat.one_mul] at this; omega)]

theorem spec_sigEncode_sigDecode (lam4 l k omega c : Nat) (gamma1 : Int) (hok : 1 ≤ omega + k ∧ omega + k < 256) (sigma : List Nat)
    (hb : ∀ x ∈ sigma, x < 256) (hlen : sigma.length = lam4 + l * (32 * c) + omega + k) (h : List Poly)
    (hd : (Spec.sigDecode lam4 l k omega c gamma1 sigma).2.2 = some h) :
    Spec.sigEncode c gamma1 omega (Spec.sigDecode lam4 l k omega c gamma1 sigma).1 (Spec.sigDecode lam4 l k omega c gamma1 sigma).2.1 h =
      sigma := by
  obtain ⟨_, _, _, hy⟩ := spec_hintBitUnpack_inv omega k (sigma.drop (lam4 + l * (32 * c))) hok.2 (fun x hx => hb x (List.mem_of_mem_drop hx))
    (by rw [List.length_drop]; omega) h hd
  unfold Spec.sigEncode Spec.sigDecode
  dsimp only
  rw [section_repack (Spec.bitPack c gamma1) (Spec.bitUnpack c gamma1) (32 * c) (spec_bitPack_bitUnpack c gamma1) sigma hb lam4 l (by omega),
    hy, List.append_assoc, take_drop_split sigma lam4 _ _ rfl, List.take_append_drop]

theorem spec_sigDecode_sigEncode (lam4 l k omega c : Nat) (gamma1 : Int) (hg : 1 < gamma1) (hab : gamma1 - 1 + gamma1 < 2 ^ c)
    (hok : 1 ≤ omega + k ∧ omega + k < 256) (ct : List Nat) (z h : List Poly) (hct : ct.length = lam4)
    (hz : VecIn l (-(gamma1 - 1)) gamma1 z) (hh : h.length = k) (hb : ∀ q ∈ h, Bin q) (hsum : onesAll h ≤ omega) :
    Spec.sigDecode lam4 l k omega c gamma1 (Spec.sigEncode c gamma1 omega ct z h) = (ct, z, some h) := by
  have rz := section_reread (Spec.bitPack c gamma1) (Spec.bitUnpack c gamma1) (32 * c) z
    (fun w hw => spec_bitUnpack_bitPack (gamma1 - 1) gamma1 c (by omega) hab w (hz.2 w hw) (hz.1.2 w hw)) (fun w => bitsToBytes_length _ _)
    ct (Spec.hintBitPack omega h)
  rw [hz.1.1, hct] at rz
  have hl : (ct ++ (z.map (Spec.bitPack c gamma1)).flatten).length = lam4 + l * (32 * c) := by
    rw [List.length_append, hct, section_length (Spec.bitPack c gamma1) _ (fun _ => bitsToBytes_length _ _), hz.1.1]
  unfold Spec.sigDecode Spec.sigEncode
  rw [rz, List.drop_left' hl, (spec_hintBitUnpack_hintBitPack omega k h hok.2 hh hb hsum).2.2, List.append_assoc, List.take_left' hct]

theorem spec_sigDecode_in (lam4 l k omega c : Nat) (gamma1 : Int) (hg : 1 < gamma1) (hpow : gamma1 - 1 + gamma1 + 1 = 2 ^ c)
    (hok : 1 ≤ omega + k ∧ omega + k < 256) (sigma : List Nat) (hb : ∀ x ∈ sigma, x < 256)
    (hlen : sigma.length = lam4 + l * (32 * c) + omega + k) (h : List Poly) (hd : (Spec.sigDecode lam4 l k omega c gamma1 sigma).2.2 = some h) :
    (Spec.sigDecode lam4 l k omega c gamma1 sigma).1.length = lam4 ∧ VecIn l (-(gamma1 - 1)) gamma1 (Spec.sigDecode lam4 l k omega c gamma1 sigma).2.1 ∧
      Sh k h ∧ (∀ q ∈ h, Bin q) ∧ onesAll h ≤ omega := by
  obtain ⟨hsh, hbin, hw, _⟩ := spec_hintBitUnpack_inv omega k (sigma.drop (lam4 + l * (32 * c))) hok.2 (fun x hx => hb x (List.mem_of_mem_drop hx))
    (by rw [List.length_drop]; omega) h hd
  refine ⟨by simp [Spec.sigDecode]; omega, ?_, hsh, hbin, hw⟩
  rw [spec_sigDecode_z lam4 l k omega c gamma1 (by omega) sigma (fun x hx => hb x (List.mem_of_mem_drop hx)) (by omega)]
  exact map_decodeP_exact_in (gamma1 - 1) gamma1 c hpow l _

end Fips204.Impl
