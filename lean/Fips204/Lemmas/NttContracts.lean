import Fips204.Lemmas.NttRound
/-! One contract per NTT-domain vector operation of the model (`ntt`, `to_mont`, `inv_ntt`, `mat_vec_mul`): on a vector in a range
    (`VecIn`, `Lemmas/Vec`) the operation returns a vector in a range.  The whole-function no-panic proofs are chains of these. -/
namespace Fips204.Impl
open Fips204 Fips204.Gen Fips204.K

section
variable (m : Mode) {n : Nat} {v : List Poly}

theorem ntt_c (h : VecIn n (-524288) 524288 v) : ∃ r, ntt m v = .ok r ∧ VecIn n (-34284028) 34284028 r := by
  obtain ⟨r, h1, h2⟩ := ntt_ok m v h.bnd
  exact ⟨r, h1, ntt_sh m n v r h.1 h1, h2⟩

theorem nttPoly_c {c : Poly} (h : PolyIn (-524288) 524288 c) :
    ∃ ch, nttPoly m c = .ok ch ∧ ntt m [c] = .ok [ch] ∧ PolyIn (-34284028) 34284028 ch := by
  obtain ⟨ch, h1, h2⟩ := nttPoly_ok m c h.2
  exact ⟨ch, h1, ntt_single m c ch h1, nttPoly_len m c ch h.1 h1, h2⟩

theorem toMont_c (h : VecIn n (-67000000) 67000000 v) : ∃ r, toMont m v = .ok r ∧ VecIn n (-16760833) 16760833 r := by
  obtain ⟨r, h1, h2⟩ := toMont_ok m v h.bnd
  exact ⟨r, h1, toMont_sh m n v r h.1 h1, h2⟩

theorem nttMont_c (h : VecIn n (-524288) 524288 v) : ∃ r, nttMont m v = .ok r ∧ VecIn n (-16760833) 16760833 r := by
  obtain ⟨a, ha, va⟩ := ntt_c m h
  obtain ⟨b, hb, vb⟩ := toMont_c m (va.mono (by omega) (by omega))
  exact ⟨b, by unfold nttMont; rw [ha, ok_bind]; exact hb, vb⟩

theorem invNtt_c (h : VecIn n (-2143289343) 2143289343 v) : ∃ r, invNtt m v = .ok r ∧ VecIn n 0 8380416 r := by
  obtain ⟨r, h1, h2⟩ := invNtt_ok m v h.bnd
  exact ⟨r, h1, invNtt_sh m n v r h.1 h1, h2⟩

/-- `58662912 = 7 (q - 1)` -/
theorem matVecMul_c {k l : Nat} {a : List (List Poly)} (ha : MatIn k l a) (hl : l ≤ 7) (h : VecIn l (-67000000) 67000000 v) :
    ∃ r, matVecMul m a v = .ok r ∧ VecIn k (-58662912) 58662912 r := by
  obtain ⟨r, h1, h2⟩ := matVecMul_ok m a v 7 (ha.rows hl) h.bnd (by omega)
  exact ⟨r, h1, matVecMul_sh m a v r k l ha.1 ha.len256 h.1 h1, h2⟩

end

/-- `w'_approx` as a value, for any key precompute inside (-2q, 2q): the subtraction rows `az - mont_reduce(c_hat * t1)`, at most
    `n q + q` and so inside the domain of `partial_reduce32`, then the inverse transform of each -/
theorem wApproxOf_eq (m : Mode) (aHat : List (List Poly)) (z zHat : List Poly) (c ch : Poly) (t1d2 : List Poly) (n : Nat)
    (hzh : ntt m z = .ok zHat) (bzh : ∀ w ∈ zHat, Bnd 67000000 w) (hch : nttPoly m c = .ok ch) (bch : Bnd 34284028 ch)
    (hA : ∀ row ∈ aHat, row.length ≤ n ∧ ∀ p ∈ row, Res p) (hn : n ≤ 200) (ht : ∀ w ∈ t1d2, Bnd 16760833 w) :
    wApproxOf m aHat z c t1d2 = .ok ((List.zipWith (fun ap tp => zw3 diffP ap ch tp) (matP aHat zHat) t1d2).map invC) := by
  have baz := matP_bnd aHat zHat n hA bzh
  have hd := zipWithM_pure (fun ap tp => zipWith3M (fun a c t => do
      let pr ← arith .i64 m "ml_dsa.rs:verify_internal:c_hat*t1" (c * t)
      let r ← mont_reduce m pr
      arith .i32 m "ml_dsa.rs:verify_internal:az-ct1" (a - r)) ap ch tp) (fun ap tp => zw3 diffP ap ch tp)
    (Bnd (n * 8380416)) (Bnd 16760833) (fun ap tp hap htp => (diffRow m _ (by omega) ap ch tp hap bch htp).1) (matP aHat zHat) t1d2 baz ht
  unfold wApproxOf
  simp only [hzh, matVecMul_eq m aHat zHat n hA bzh hn, ntt_single m c ch hch, ok_bind, idx, List.getElem?_cons_zero, pure_eq, hd]
  refine invNtt_eq m _ _ (CongV.refl _) fun w hw => ?_
  obtain ⟨ap, hap, tp, htp, rfl⟩ := exists_of_mem_zipWith _ _ _ w hw
  exact (diffRow m _ (by omega) ap ch tp (baz ap hap) bch (ht tp htp)).2

/-- **the verifier's lazy NTT pipeline cannot overflow**, whatever response vector `z` (|z_i| ≤ 2^19, i.e. anything
    `sigDecode` can return), challenge `c` in {-1,0,1}, canonical matrix (rows of at most `n ≤ 200` entries: the crate has `n ≤ 7`) and
    key precompute it is given -/
theorem wApproxOf_ok (m : Mode) (aHat : List (List Poly)) (z : List Poly) (c : Poly) (t1d2 : List Poly) (n : Nat)
    (hA : ∀ row ∈ aHat, row.length ≤ n ∧ ∀ p ∈ row, Res p) (hn : n ≤ 200) (hz : ∀ w ∈ z, Bnd 524288 w) (hc : Bnd 1 c)
    (ht : ∀ w ∈ t1d2, Bnd 16760833 w) :
    ∃ r, wApproxOf m aHat z c t1d2 = .ok r ∧ ∀ w ∈ r, Res w := by
  obtain ⟨zHat, hzh, bz⟩ := ntt_ok m z hz
  obtain ⟨ch, hch, bch⟩ := nttPoly_ok m c (hc.mono (by omega))
  refine ⟨_, wApproxOf_eq m aHat z zHat c ch t1d2 n hzh (fun w hw => (bz w hw).mono (by omega)) hch bch hA hn ht, fun w hw => ?_⟩
  obtain ⟨d, _, rfl⟩ := List.mem_map.mp hw
  exact canon_can _

/-- the signer's commitment `w = invNTT(A_hat ∘ NTT(y))` (and key generation's `A s1`) cannot overflow either -/
theorem commitment_ok (m : Mode) (aHat : List (List Poly)) (y : List Poly) (n : Nat)
    (hA : ∀ row ∈ aHat, row.length ≤ n ∧ ∀ p ∈ row, Res p) (hn : n ≤ 200) (hy : ∀ w ∈ y, Bnd 524288 w) :
    ∃ r, (do let yh ← ntt m y; let ay ← matVecMul m aHat yh; invNtt m ay) = .ok r ∧ ∀ w ∈ r, Res w := by
  obtain ⟨yHat, hyHat, by'⟩ := ntt_ok m y hy
  obtain ⟨ay, hay, bay⟩ := matVecMul_ok m aHat yHat n hA (fun w hw => (by' w hw).mono (by omega)) hn
  obtain ⟨r, hr, br⟩ := invNtt_ok m ay (fun w hw => (bay w hw).mono (by omega))
  exact ⟨r, by simp only [hyHat, hay, hr, ok_bind], br⟩

theorem precomputeT1_sh (m : Mode) (n : Nat) (t1 r : List Poly) (ht : Sh n t1) (h : precomputeT1 m t1 = .ok r) : Sh n r := by
  simp only [precomputeT1, nttMont, bind_eq_ok] at h
  obtain ⟨a, ⟨a0, h0, h1⟩, b, h2, h⟩ := h
  exact toMont_sh m n b r (mapM2_sh _ n a b (toMont_sh m n a0 a (ntt_sh m n t1 a0 ht h0) h1) h2) h

theorem precomputeT1_c (m : Mode) {n : Nat} {t1 : List Poly} (h : VecIn n 0 1023 t1) :
    ∃ r, precomputeT1 m t1 = .ok r ∧ VecIn n (-16760833) 16760833 r := by
  obtain ⟨r, h1, h2⟩ := precomputeT1_stored m t1 h.2
  exact ⟨r, h1, precomputeT1_sh m n t1 r h.1 h1, h2.bnd⟩

theorem wApproxOf_sh (m : Mode) (aHat : List (List Poly)) (z : List Poly) (c : Poly) (t1d2 r : List Poly) (k l : Nat)
    (hA : aHat.length = k) (hA2 : ∀ row ∈ aHat, ∀ q ∈ row, q.length = 256) (hz : Sh l z) (hc : c.length = 256)
    (ht : Sh k t1d2) (h : wApproxOf m aHat z c t1d2 = .ok r) : Sh k r := by
  simp only [wApproxOf, bind_eq_ok] at h
  obtain ⟨zHat, h1, az, h2, chats, h3, chat, h4, diff, h5, h⟩ := h
  have s1 := ntt_sh m l z zHat hz h1
  have s2 := matVecMul_sh m aHat zHat az k l hA hA2 s1 h2
  have s3 := ntt_sh m 1 [c] chats ⟨rfl, fun q hq => by rw [List.mem_singleton.mp hq]; exact hc⟩ h3
  have hchat : chat.length = 256 := s3.2 chat (List.mem_of_getElem? ((idx_eq_ok ..).mp h4))
  have s4 : Sh k diff := ⟨by rw [zipWithM_len _ _ _ _ h5, s2.1, ht.1]; simp,
    zipWithM_all _ (fun q => q.length = 256) _ _ _ h5 (fun ap hap tp htp d hd => by
      rw [zipWith3M_len _ _ _ _ _ hd, s2.2 ap hap, hchat, ht.2 tp htp]; simp)⟩
  exact invNtt_sh m k diff r s4 h

theorem wApproxOf_c (m : Mode) {k l : Nat} {aHat : List (List Poly)} {z t1d2 : List Poly} {c : Poly} (hA : MatIn k l aHat) (hl : l ≤ 7)
    (hz : VecIn l (-524288) 524288 z) (hc : PolyIn (-1) 1 c) (ht : VecIn k (-16760833) 16760833 t1d2) :
    ∃ r, wApproxOf m aHat z c t1d2 = .ok r ∧ VecIn k 0 8380416 r := by
  obtain ⟨r, h1, h2⟩ := wApproxOf_ok m aHat z c t1d2 7
    (hA.rows hl) (by decide) hz.bnd hc.2 ht.bnd
  exact ⟨r, h1, wApproxOf_sh m aHat z c t1d2 r k l hA.1 hA.len256 hz.1 hc.1 ht.1 h1, h2⟩

end Fips204.Impl
