import Fips204.Lemmas.KernelsRound
import Fips204.Lemmas.SampleInBall
import Fips204.Lemmas.RingIdentity
/-! The verifier recomputes the signer's `w1`: `UseHint(h, w'_approx) = HighBits(w)` for every coefficient of every row,
    under the tests Algorithm 7 applies before it emits a signature. Exact specifications on both sides.
    First the two facts about one coefficient: `‖c * s‖∞ ≤ ‖c‖₁ ‖s‖∞` for the negacyclic product (why `‖c s2‖∞ ≤ tau * eta = beta`),
    and the hint of one coefficient (`coeff_hint`). -/
namespace Fips204.Impl
open Fips204 Fips204.Gen Fips204.K

theorem mulP_dom : ∀ (c s t : List Int), (∀ j, -t.getD j 0 ≤ s.getD j 0 ∧ s.getD j 0 ≤ t.getD j 0) →
    ∀ n, -(mulP (c.map absI) t).getD n 0 ≤ (mulP c s).getD n 0 ∧ (mulP c s).getD n 0 ≤ (mulP (c.map absI) t).getD n 0 := by
  intro c
  induction c with
  | nil => intro s t _ n; simp [mulP]
  | cons a as ih =>
    intro s t h n
    simp only [List.map_cons, mulP, addP_getD, map_mul_getD]
    have hj := h n
    have ha : -absI a ≤ a ∧ a ≤ absI a := by rw [absI_eq]; split <;> omega
    have hp := mul_bound_sym a (s.getD n 0) (absI a) (t.getD n 0) ha.1 ha.2 hj.1 hj.2
    cases n with
    | zero => simp only [List.getD_cons_zero]; omega
    | succ k =>
      simp only [List.getD_cons_succ]
      have := ih s t h k
      omega

theorem cyc_const (B : Int) : ∀ (u : List Int), u.length ≤ 256 → ∀ k, k ≤ 255 →
    (mulP u (List.replicate 256 B)).getD k 0 + (mulP u (List.replicate 256 B)).getD (k + 256) 0 = B * u.sum := by
  intro u
  induction u with
  | nil => intro _ k _; simp [mulP]
  | cons a as ih =>
    intro hl k hk
    simp only [List.length_cons] at hl
    simp only [mulP, addP_getD, map_mul_getD, List.sum_cons]
    have r1 : (List.replicate 256 B).getD k 0 = B := by
      rw [List.getD_eq_getElem?_getD, List.getElem?_replicate, if_pos (by omega)]; rfl
    have r2 : (List.replicate 256 B).getD (k + 256) 0 = 0 := by
      rw [List.getD_eq_getElem?_getD, List.getElem?_replicate, if_neg (by omega)]; rfl
    rw [r1, r2]
    have hd : B * (a + as.sum) = a * B + B * as.sum := by rw [Int.mul_add, Int.mul_comm B a]
    cases k with
    | zero =>
      simp only [List.getD_cons_zero, Nat.zero_add]
      have h255 := ih (by omega) 255 (by omega)
      have hout : (mulP as (List.replicate 256 B)).getD (255 + 256) 0 = 0 := by
        rw [List.getD_eq_getElem?_getD, List.getElem?_eq_none]; rfl
        cases as with
        | nil => simp only [mulP, List.length_nil]; omega
        | cons a' as' =>
          rw [mulP_length _ _ (List.cons_ne_nil _ _) (by intro h; have := congrArg List.length h; rw [List.length_replicate] at this; simp at this)]
          simp only [List.length_cons, List.length_replicate] at hl ⊢; omega
      rw [hout] at h255
      have e : (0 :: mulP as (List.replicate 256 B)).getD 256 0 = (mulP as (List.replicate 256 B)).getD 255 0 := rfl
      rw [e]
      omega
    | succ j =>
      simp only [List.getD_cons_succ]
      have hj := ih (by omega) j (by omega)
      omega

theorem negMul_bound (c s : List Int) (B : Int) (hc : c.length ≤ 256) (hs : s.length = 256) (hB : ∀ x ∈ s, -B ≤ x ∧ x ≤ B) :
    ∀ x ∈ negMul c s, -(B * (c.map absI).sum) ≤ x ∧ x ≤ B * (c.map absI).sum := by
  intro x hx
  obtain ⟨k, hk, rfl⟩ := List.mem_iff_getElem.mp hx
  have hlen : (negMul c s).length ≤ 256 := by
    unfold negMul negc
    rw [addP_length, List.length_take, List.length_map, List.length_drop]
    cases c with
    | nil => simp [mulP]
    | cons a as =>
      rw [mulP_length _ _ (by simp) (by intro h; rw [h] at hs; simp at hs), hs]
      simp only [List.length_cons] at hc ⊢; omega
  have hk' : k < 256 := by omega
  rw [List.getElem_eq_getD (h := hk) 0]
  unfold negMul
  rw [negc_getD _ k hk']
  have hdom := mulP_dom c s (List.replicate 256 B) (fun j => by
    by_cases hj : j < 256
    · rw [List.getD_eq_getElem?_getD, List.getElem?_replicate, if_pos hj]
      rw [List.getD_eq_getElem?_getD, List.getElem?_eq_getElem (by omega)]
      simp only [Option.getD_some]
      exact hB _ (List.getElem_mem _)
    · rw [List.getD_eq_getElem?_getD, List.getElem?_replicate, if_neg hj, List.getD_eq_getElem?_getD, List.getElem?_eq_none (by omega)]
      simp)
  have d1 := hdom k
  have d2 := hdom (k + 256)
  have hc' := cyc_const B (c.map absI) (by rw [List.length_map]; exact hc) k (by omega)
  omega

theorem coeff_hint (g beta w cs2 ct0 : Int) (hg : G2 g) (hb : 0 ≤ beta ∧ beta ≤ g)
    (h1 : -beta ≤ modpm Q cs2 ∧ modpm Q cs2 ≤ beta)
    (h2 : -(g - beta) < Spec.lowBits g (w - cs2) ∧ Spec.lowBits g (w - cs2) < g - beta)
    (h3 : -g < modpm Q ct0 ∧ modpm Q ct0 < g) :
    Spec.useHint g (if Spec.makeHint g (-ct0) (w - cs2 + ct0) then 1 else 0) (w - cs2 + ct0) = Spec.highBits g w := by
  have c0 := cg_modpm ct0
  have c2 := cg_modpm cs2
  unfold cg at c0 c2
  rw [Spec.makeHint_mod_z g (-ct0) (-(modpm Q ct0)) (w - cs2 + ct0) (by simp only [Q] at *; omega)]
  rw [Spec.hint_duality (K.G2.rnd hg) (w - cs2 + ct0) (-(modpm Q ct0)) (by omega)]
  rw [Spec.highBits_mod g (w - cs2 + ct0 + -(modpm Q ct0)) (w - cs2) (by simp only [Q] at *; omega)]
  have hs := Spec.highBits_stable g (w - cs2) (modpm Q cs2) beta hg hb h1 h2
  rw [← hs]
  exact Spec.highBits_mod g _ _ (by simp only [Q] at *; omega)

theorem sum_abs_tri : ∀ (c : Poly), (∀ x ∈ c, x = -1 ∨ x = 0 ∨ x = 1) → (c.map absI).sum = (nz c : Nat) := by
  intro c
  induction c with
  | nil => intro _; simp [nz]
  | cons a as ih =>
    intro h
    rw [List.map_cons, List.sum_cons, ih (fun x hx => h x (List.mem_cons_of_mem _ hx)), nz_cons]
    rcases h a (List.mem_cons_self ..) with rfl | rfl | rfl <;> simp [absI_eq] <;> omega

theorem cmul_centered_bound (c s : Poly) (tau eta : Int) (hc : Tri c) (hn : (nz c : Int) = tau) (hs : s.length = 256)
    (hB : ∀ x ∈ s, -eta ≤ x ∧ x ≤ eta) (hsmall : eta * tau ≤ 4190208) :
    ∀ x ∈ cmul c s, -(eta * tau) ≤ modpm Q x ∧ modpm Q x ≤ eta * tau := by
  intro x hx
  unfold cmul canon at hx
  obtain ⟨v, hv, rfl⟩ := List.mem_map.mp hx
  have hb := negMul_bound c s eta (by rw [hc.1]; exact Nat.le_refl _) hs hB v hv
  rw [sum_abs_tri c hc.2, hn] at hb
  unfold modpm
  simp only [Q]
  split <;> omega

theorem useHint_of_cg (g h : Int) {a b : Int} (hab : cg a b) : Spec.useHint g h a = Spec.useHint g h b :=
  Spec.useHint_mod g h a b (by unfold cg at hab; simp only [Q]; omega)

theorem poly_recover (g beta : Int) (hg : G2 g) (hb : 0 ≤ beta ∧ beta ≤ g) (w cs2 ct0 wa : Poly)
    (l1 : w.length = cs2.length) (l2 : cs2.length = ct0.length)
    (hwa : CongL wa (zw3 (fun p q r => p - q + r) w cs2 ct0))
    (h1 : ∀ x ∈ cs2, -beta ≤ modpm Q x ∧ modpm Q x ≤ beta)
    (h2 : ∀ x ∈ List.zipWith (fun a b => Spec.lowBits g (a - b)) w cs2, -(g - beta) < x ∧ x < g - beta)
    (h3 : ∀ x ∈ ct0, -g < modpm Q x ∧ modpm Q x < g) :
    List.zipWith (fun hh r => Spec.useHint g hh r)
      (zw3 (fun a b c0 => if Spec.makeHint g (-c0) (a - b + c0) then (1 : Int) else 0) w cs2 ct0) wa = w.map (Spec.highBits g) := by
  have lz : ∀ f : Int → Int → Int → Int, (zw3 f w cs2 ct0).length = w.length := fun f => by rw [zw3_length]; omega
  have lwa : wa.length = w.length := hwa.1.trans (lz _)
  apply List.ext_getElem
  · rw [List.length_zipWith, List.length_map, lz, lwa]; omega
  · intro j g1 g2
    rw [List.length_map] at g2
    have hc := hwa.2 j (by omega) (by rw [lz]; exact g2)
    rw [zw3_getElem] at hc
    rw [List.getElem_zipWith, List.getElem_map, zw3_getElem, useHint_of_cg g _ hc]
    refine coeff_hint g beta _ _ _ hg hb (h1 _ (List.getElem_mem _)) ?_ (h3 _ (List.getElem_mem _))
    refine h2 _ (List.mem_iff_getElem.mpr ⟨j, by rw [List.length_zipWith]; omega, ?_⟩)
    rw [List.getElem_zipWith]

theorem row_recover (g beta : Int) (hg : G2 g) (hb : 0 ≤ beta ∧ beta ≤ g) (row s1 y : List Poly) (c s2r : Poly)
    (hrow : ∀ a ∈ row, a.length = 256) (hs1 : ∀ u ∈ s1, u.length = 256) (hy : ∀ u ∈ y, u.length = 256) (hl1 : y.length = s1.length)
    (lc : c.length = 256) (ls2 : s2r.length = 256)
    (h1 : ∀ x ∈ cmul c s2r, -beta ≤ modpm Q x ∧ modpm Q x ≤ beta)
    (h2 : ∀ x ∈ List.zipWith (fun a b => Spec.lowBits g (a - b)) (invC (rowS row y zeroPoly)) (cmul c s2r), -(g - beta) < modpm Q x ∧ modpm Q x < g - beta)
    (h3 : ∀ x ∈ cmul c ((tRowS row s1 s2r).map fun v => (Spec.power2round v).2), -g < modpm Q x ∧ modpm Q x < g) :
    List.zipWith (fun hh r => Spec.useHint g hh r)
      (zw3 (fun a b c0 => if Spec.makeHint g (-c0) (a - b + c0) then (1 : Int) else 0) (invC (rowS row y zeroPoly)) (cmul c s2r)
        (cmul c ((tRowS row s1 s2r).map fun v => (Spec.power2round v).2)))
      (wRowS row (List.zipWith (fun yp cp => List.zipWith (fun a b => modpm Q (a + b)) yp cp) y (s1.map (cmul c))) c
        ((tRowS row s1 s2r).map fun v => (Spec.power2round v).1)) = (invC (rowS row y zeroPoly)).map (Spec.highBits g) := by
  have lw := invC_length _ (rowS_length row y hrow hy)
  have lt := tRowS_length row s1 s2r hrow hs1 ls2
  have lcs2 := cmul_length c s2r lc ls2
  have lct0 := cmul_length c ((tRowS row s1 s2r).map fun v => (Spec.power2round v).2) lc (by rw [List.length_map, lt])
  refine poly_recover g beta hg hb _ _ _ _ (by rw [lw, lcs2]) (by rw [lcs2, lct0]) (verifier_row row s1 y c s2r hrow hs1 hy hl1 lc ls2) h1
    (fun x hx => ?_) h3
  have hx' := h2 x hx
  obtain ⟨a, _, b, _, rfl⟩ := exists_of_mem_zipWith _ _ _ x hx
  have hrng := lowBits_range g (a - b) hg
  rwa [modpm_small _ (by omega)] at hx'

/-- the hint vector is `attemptSpec.zw3L (..) w (c s2) (c t0)` of `Lemmas/SignSpec`, spelled out -/
theorem verifier_recovers_w1 (g beta : Int) (hg : G2 g) (hb : 0 ≤ beta ∧ beta ≤ g) {k l : Nat}
    {aHat : List (List Poly)} {s1 s2 y t : List Poly} {c : Poly}
    (hA : MatSh k aHat) (hs1 : Sh l s1) (hs2 : Sh k s2) (hy : Sh l y) (lc : c.length = 256)
    (ht : t = List.zipWith (fun row s2r => tRowS row s1 s2r) aHat s2)
    (hcs2 : ∀ q ∈ s2.map (cmul c), ∀ x ∈ q, -beta ≤ modpm Q x ∧ modpm Q x ≤ beta)
    (hr0 : ∀ q ∈ List.zipWith (fun wp cp => List.zipWith (fun a b => Spec.lowBits g (a - b)) wp cp) (commitS aHat y) (s2.map (cmul c)),
      ∀ x ∈ q, -(g - beta) < modpm Q x ∧ modpm Q x < g - beta)
    (hct0 : ∀ q ∈ (t.map fun q => q.map fun x => (Spec.power2round x).2).map (cmul c), ∀ x ∈ q, -g < modpm Q x ∧ modpm Q x < g) :
    List.zipWith (fun hp wp => List.zipWith (fun hh r => Spec.useHint g hh r) hp wp)
      (List.zipWith (fun ap (bc : Poly × Poly) => zw3 (fun a b c0 => if Spec.makeHint g (-c0) (a - b + c0) then (1 : Int) else 0) ap bc.1 bc.2)
        (commitS aHat y) (List.zip (s2.map (cmul c)) ((t.map fun q => q.map fun x => (Spec.power2round x).2).map (cmul c))))
      (wApproxS aHat (List.zipWith (fun yp cp => List.zipWith (fun a b => modpm Q (a + b)) yp cp) y (s1.map (cmul c))) c
        (t.map fun q => q.map fun x => (Spec.power2round x).1)) =
      (commitS aHat y).map (fun q => q.map (Spec.highBits g)) := by
  subst ht
  unfold wApproxS
  have hk : aHat.length = s2.length := hA.1.trans hs2.1.symm
  apply List.ext_getElem
  · simp only [List.length_zipWith, List.length_map, List.length_zip, commitS_length]; omega
  · intro i g1 g2
    rw [List.length_map, commitS_length] at g2
    have i2 : i < s2.length := by omega
    simp only [List.getElem_zipWith, List.getElem_map, List.getElem_zip, commitS_getElem]
    refine row_recover g beta hg hb _ s1 y c _ (hA.2 _ (List.getElem_mem g2)) hs1.2 hy.2 (hy.1.trans hs1.1.symm) lc (hs2.2 _ (List.getElem_mem i2))
      (hcs2 _ (List.mem_map.mpr ⟨_, List.getElem_mem i2, rfl⟩))
      (hr0 _ (List.mem_iff_getElem.mpr ⟨i, by simp only [List.length_zipWith, List.length_map, commitS_length]; omega, ?_⟩))
      (hct0 _ (List.mem_iff_getElem.mpr ⟨i, by simp only [List.length_zipWith, List.length_map]; omega, ?_⟩))
    · rw [List.getElem_zipWith, List.getElem_map, commitS_getElem]
    · rw [List.getElem_map, List.getElem_map, List.getElem_zipWith]

end Fips204.Impl
