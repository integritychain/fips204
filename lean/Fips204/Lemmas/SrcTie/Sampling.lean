/-
  Lemmas.SrcTie.Sampling — `expand_mask` (width, counter) and `sample_in_ball` (index arithmetic, sign): the model takes
  the expressions of the current source (see SrcTie/Basic for the method).
-/
import Fips204.Lemmas.SrcTie.Basic
import Fips204.Lemmas.Arith
namespace Fips204.SrcTie
open Fips204 Fips204.Gen Fips204.Impl

/-! ### `expand_mask` (Algorithm 34) -/

/-- `c = 1 + bit_length(gamma1 - 1)` for the two values of gamma1, as the model computes it (18 and 20 bits) -/
theorem expand_mask_c (m : Mode) :
    Exprs.expand_mask_c m 131072 = .ok 18 ∧ Exprs.expand_mask_c m 524288 = .ok 20 ∧
    (do let g1 ← arith .i32 m "hashing.rs:expand_mask:gamma1-1" (131072 - 1); let bl ← bitLen m g1; pure (1 + bl) : M Nat) = .ok 18 ∧
    (do let g1 ← arith .i32 m "hashing.rs:expand_mask:gamma1-1" (524288 - 1); let bl ← bitLen m g1; pure (1 + bl) : M Nat) = .ok 20 := by
  refine ⟨okIs_eq _ _ ?_, okIs_eq _ _ ?_, okIs_eq _ _ ?_, okIs_eq _ _ ?_⟩ <;> cases m <;> decide +kernel

/-- the per-polynomial counter `n = mu + r` is a `u16` addition -/
theorem expand_mask_n (m : Mode) (mu : Int) (r : Nat) :
    Same (arith .u16 m "hashing.rs:expand_mask:mu+r" (mu + Int.ofNat r)) (Exprs.expand_mask_n m mu r) := by
  unfold Exprs.expand_mask_n; tie
  rfl

/-- the unpacked range is `[-(gamma1 - 1), gamma1]` -/
theorem expand_mask_unpack_args : Exprs.expand_mask_unpack_args = "gamma1 - 1, gamma1" := by decide

/-! ### `sample_in_ball` (Algorithm 29) -/

/-- `index = i + tau - 256` inside the loop range `256 - tau ..= 255` -/
theorem sib_index (m : Mode) (i tau : Nat) (h1 : 256 ≤ i + tau) (h2 : i < 256) (h3 : tau ≤ 256) :
    Exprs.sib_index m i tau = .ok (Int.ofNat (i + tau - 256)) := by
  unfold Exprs.sib_index
  have e1 : arith .usize m "hashing.rs:sample_in_ball.sib_index:+#1" ((i : Int) + (tau : Int)) = .ok ((i : Int) + (tau : Int)) :=
    arith_eq _ _ _ _ (by simp only [IT.lo]; omega) (by simp only [IT.hi]; omega)
  have e2 : arith .usize m "hashing.rs:sample_in_ball.sib_index:-#2" ((i : Int) + (tau : Int) - 256) = .ok ((i : Int) + (tau : Int) - 256) :=
    arith_eq _ _ _ _ (by simp only [IT.lo]; omega) (by simp only [IT.hi]; omega)
  simp only [e1, e2, ok_bind, Int.ofNat_eq_natCast]
  congr 1; omega

theorem sib_range (m : Mode) (tau : Nat) (h : tau ≤ 256) : Exprs.sib_range m tau = .ok (Int.ofNat (256 - tau)) := by
  unfold Exprs.sib_range
  have e1 : arith .usize m "hashing.rs:sample_in_ball.sib_range:-#1" (256 - (tau : Int)) = .ok (256 - (tau : Int)) :=
    arith_eq _ _ _ _ (by simp only [IT.lo]; omega) (by simp only [IT.hi]; omega)
  simp only [e1, Int.ofNat_eq_natCast]
  congr 1; omega

/-- the coefficient written is `1 - 2 * (shifted & 1)`: +1 or -1 by the low bit (all 256 byte values) -/
theorem sib_value (m : Mode) (s : Fin 256) : Exprs.sib_value m s.val = .ok (1 - 2 * Int.ofNat (s.val % 2)) := by
  obtain ⟨n, hn⟩ := s
  have hb : band .u8 (n : Int) 1 = ((n % 2 : Nat) : Int) :=
    band_low .u8 n 1 1 rfl (show (1 : Int) ≤ 255 by omega) (Int.natCast_nonneg _) (show (n : Int) ≤ (255 : Int) by omega)
  have h2 : n % 2 < 2 := Nat.mod_lt _ (by decide)
  unfold Exprs.sib_value
  -- the low bit as a variable: `omega` on a goal that mentions `%` is dear to check
  generalize n % 2 = b at hb h2 ⊢
  rw [hb]
  dsimp only
  rw [arith_i32 _ _ _ (by omega) (by omega), ok_bind, arith_i32 _ _ _ (by omega) (by omega)]
  rfl

end Fips204.SrcTie
