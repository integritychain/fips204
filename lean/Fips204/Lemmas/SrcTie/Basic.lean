/-
  Lemmas.SrcTie — the model computes the per-coefficient expressions that the current source contains.

  `Gen/Exprs.lean` is regenerated from `/repo/src` on every run: every `core::array::from_fn(|k| R(from_fn(|n| EXPR)))`
  comprehension of `ml_dsa.rs`, of the serialisers in `lib.rs` and of `helpers.rs` is translated, expression by expression,
  into a Lean function of its scalar inputs.  The model (`Impl/*`) is written by hand; this file pins the two together:

  * a *shape* theorem (by `rfl`) states that a model function is literally a skeleton instantiated with certain
    per-coefficient lambdas, so the lambdas quoted here are the ones the model runs;
  * a *tie* theorem per lambda states that it agrees with the translated source expression on every input, up to the
    name of the fault site (`er` forgets the site string and keeps value / fault kind).

  A change to one of these expressions in the source changes `Gen/Exprs` and the corresponding tie no longer checks.
-/
import Fips204.Gen.Exprs
import Fips204.Impl.MlDsa
namespace Fips204.SrcTie
open Fips204 Fips204.Gen Fips204.Impl

/-- forget the fault site: the value, or the kind of fault -/
def er {α} : M α → Except String α
  | .ok a => .ok a
  | .error f => .error f.kind

/-- `arith` without a site -/
def arithK (t : IT) (m : Mode) (r : Int) : Except String Int :=
  if t.lo ≤ r ∧ r ≤ t.hi then .ok r
  else match m with
    | .checked => .error "overflow"
    | .release => .ok (t.wrap r)

theorem er_pure {α} (a : α) : er (pure a : M α) = .ok a := rfl
theorem er_ok {α} (a : α) : er (.ok a : M α) = .ok a := rfl

theorem er_bind {α β} (x : M α) (f : α → M β) : er (x >>= f) = (er x >>= fun a => er (f a)) := by
  cases x <;> rfl

theorem er_arith (t : IT) (m : Mode) (s : String) (r : Int) : er (arith t m s r) = arithK t m r := by
  unfold arith arithK
  split
  · rfl
  · cases m <;> rfl

theorem er_ite {α} (c : Prop) [Decidable c] (x y : M α) : er (if c then x else y) = if c then er x else er y := by
  split <;> rfl

theorem okBindK {α β} (a : α) (f : α → Except String β) : ((.ok a : Except String α) >>= f) = f a := rfl
theorem bindOkK {α} (x : Except String α) : (x >>= fun a => (.ok a : Except String α)) = x := by
  cases x <;> rfl
theorem bindAssocK {α β γ} (x : Except String α) (f : α → Except String β) (g : β → Except String γ) :
    ((x >>= f) >>= g) = (x >>= fun a => f a >>= g) := by
  cases x <;> rfl

/-- decidable form of `x = .ok v` (the error type has no `DecidableEq` instance on `Except`) -/
def okIs {α} [DecidableEq α] (x : M α) (v : α) : Bool := match x with | .ok a => decide (a = v) | .error _ => false

theorem okIs_eq {α} [DecidableEq α] (x : M α) (v : α) (h : okIs x v = true) : x = .ok v := by
  cases x with
  | error e => simp [okIs] at h
  | ok a => simp only [okIs, decide_eq_true_eq] at h; rw [h]

/-- two computations agree up to fault-site names -/
abbrev Same {α} (x y : M α) : Prop := er x = er y

theorem shiftD : (2 : Int) ^ D.toNat = 8192 := by decide
theorem Qhalf : Int.tdiv Q 2 = 4190208 := by decide

macro "tie" : tactic => `(tactic|
  (simp only [Same, er_bind, er_arith, er_pure, er_ok, er_ite, okBindK, bindOkK, bindAssocK, apply_ite er, Qhalf, shiftD, decide_eq_true_eq]))


/-! ## Shared skeletons -/

def mulInvWith (f : Int → Int → M Int) (m : Mode) (chat : Poly) (v : List Poly) : M (List Poly) := do
  let prods ← v.mapM (fun s => zipWithM f chat s)
  invNtt m prods

theorem mulInv_shape (m : Mode) (site : String) (chat : Poly) (v : List Poly) :
    mulInv m site chat v = mulInvWith (fun c x => do
      let p ← arith .i64 m site (c * x)
      mont_reduce m p) m chat v := rfl

def unMontCenteredWith (f g : Int → M Int) (m : Mode) (v : List Poly) : M (List Poly) := do
  let a ← v.mapM (fun p => p.mapM f)
  let b ← invNtt m a
  b.mapM (fun p => p.mapM g)

theorem unMontCentered_shape (m : Mode) (v : List Poly) :
    unMontCentered m v = unMontCenteredWith (mont_reduce m)
      (fun x => if x > Int.tdiv Q 2 then arith .i32 m "lib.rs:into_bytes:x-Q" (x - Q) else pure x) m v := rfl

def precomputeT1With (f : Int → M Int) (m : Mode) (t1 : List Poly) : M (List Poly) := do
  let t1hm ← nttMont m t1
  let sh ← t1hm.mapM (fun p => p.mapM f)
  toMont m sh

theorem precomputeT1_shape (m : Mode) (t1 : List Poly) :
    precomputeT1 m t1 = precomputeT1With (fun x => mont_reduce m (IT.i64.wrap (x * 2 ^ D.toNat))) m t1 := rfl

def addVectorNttWith (f : Int → Int → M Int) (v w : List Poly) : M (List Poly) :=
  zipWithM (fun p q => zipWithM f p q) v w

theorem addVectorNtt_shape (m : Mode) (v w : List Poly) :
    addVectorNtt m v w = addVectorNttWith (fun a b => arith .i32 m "helpers.rs:add_vector_ntt:+" (a + b)) v w := rfl

theorem add_vector (m : Mode) (a b : Int) :
    Same (arith .i32 m "helpers.rs:add_vector_ntt:+" (a + b)) (Exprs.add_vector_ntt_anon m a b) := by
  unfold Exprs.add_vector_ntt_anon; tie

/-- `add_vector_ntt` consists of exactly this comprehension -/
theorem comprehensions_add_vector_ntt : Exprs.add_vector_ntt_comprehensions = ["add_vector_ntt_anon"] := by decide

end Fips204.SrcTie
