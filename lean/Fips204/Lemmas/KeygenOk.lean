import Fips204.Lemmas.VerifyOk
/-! What key generation returns (`GenOk`; the walk through `key_gen_internal` itself is `keyGenInternal_sim` in `Lemmas/KeygenSpec`);
    a private-key struct as a representation of vectors `(s1, s2, t0)` (`SkOf`). -/
namespace Fips204.Impl
open Fips204 Fips204.Gen Fips204.K

/-- the two halves of `Power2Round` on any vector: `t1` in `[0, 2^10 - 1]`, `t0` in `[-2^12 + 1, 2^12]` -/
theorem Sh.p2r1 {n : Nat} {t : List Poly} (h : Sh n t) : VecIn n 0 1023 (t.map fun q => q.map fun x => (Spec.power2round x).1) :=
  h.map₂_in fun x => by have := Spec.power2round_spec x; omega

theorem Sh.p2r0 {n : Nat} {t : List Poly} (h : Sh n t) : VecIn n (-4095) 4096 (t.map fun q => q.map fun x => (Spec.power2round x).2) :=
  h.map₂_in fun x => by have := Spec.power2round_spec x; omega

/-- the encoders' spelling of the range of `t0` -/
theorem VecIn.top {n : Nat} {v : List Poly} (h : VecIn n (-4095) 4096 v) : VecIn n (-(Impl.top - 1)) Impl.top v := by
  rw [top_eq]
  exact h.mono (by omega) (by omega)

theorem power2round_vec_eq (m : Mode) (r : List Poly) (hr : ∀ q ∈ r, Res q) :
    power2round m r = .ok (r.map (fun p => p.map (fun x => (Spec.power2round x).1)), r.map (fun p => p.map (fun x => (Spec.power2round x).2))) := by
  have hs : ∀ p ∈ r, ∀ x ∈ p, 0 ≤ x ∧ x < 8380417 := fun p hp => (hr p hp).lt
  have hr1 : r.mapM (fun p => p.mapM (power2round_r1 m)) = .ok (r.map (fun p => p.map (fun x => (Spec.power2round x).1))) :=
    mapM_pure _ _ r (fun p hp => mapM_pure _ _ p (fun x hx => (power2round_parts m x (hs p hp x hx).1 (hs p hp x hx).2).1))
  have hr0 : zipWithM (fun p p1 => zipWithM (power2round_r0 m) p p1) r (r.map (fun p => p.map (fun x => (Spec.power2round x).1))) =
      .ok (r.map (fun p => p.map (fun x => (Spec.power2round x).2))) :=
    zipWithM_map_pure _ _ _ r (fun p hp => zipWithM_map_pure _ _ _ p (fun x hx => (power2round_parts m x (hs p hp x hx).1 (hs p hp x hx).2).2))
  have hall : ∀ {α} (l : List α), ((l.map (fun _ => true)).all id) = true := fun l => by
    rw [List.all_eq_true]; intro b hb; obtain ⟨_, _, rfl⟩ := List.mem_map.mp hb; rfl
  have hck : zipWith3M (fun p p1 p0 => do
      let bs ← zipWith3M (power2round_check m) p p1 p0
      pure (bs.all id)) r (r.map (fun p => p.map (fun x => (Spec.power2round x).1))) (r.map (fun p => p.map (fun x => (Spec.power2round x).2))) =
      .ok (r.map (fun _ => true)) :=
    zipWith3M_map_pure _ _ _ _ r (fun p hp => by
      rw [zipWith3M_map_pure (power2round_check m) _ _ (fun _ => true) p
        (fun x hx => power2round_check_eq m x (hs p hp x hx).1 (hs p hp x hx).2), ok_bind, pure_eq, hall])
  have hin : (r.all (fun p => p.all (fun e => decide (0 ≤ e) && decide (e < Q)))) = true := by
    rw [List.all_eq_true]; intro p hp
    rw [List.all_eq_true]; intro e he
    have := hr p hp e he
    simp only [Q, Bool.and_eq_true, decide_eq_true_eq]; omega
  unfold power2round
  rw [dassert_dec m _ _ hin, ok_bind, hr1, ok_bind, hr0, ok_bind,
    dassertM_eq m _ _ (by rw [hck, ok_bind, pure_eq, hall]), ok_bind, pure_eq]

/-- shapes and NTT-domain magnitudes of a private-key struct; every struct that represents vectors has them (`SkOf.skOk`) -/
structure SkOk (p : ParamSet) (sk : PrivateKey) : Prop where
  rho : sk.rho.length = 32
  s1 : Sh p.l sk.s1
  s2 : Sh p.k sk.s2
  t0 : Sh p.k sk.t0
  b1 : ∀ w ∈ sk.s1, Bnd 16760833 w
  b2 : ∀ w ∈ sk.s2, Bnd 16760833 w
  b0 : ∀ w ∈ sk.t0, Bnd 16760833 w

/-- what `key_gen_internal` returns, in terms of the vectors it sampled and rounded; the inner `∃` records the model's steps from
    `A_hat` to `(t1, t0)`, which `genOk_vectors` replays -/
structure GenOk (m : Mode) (O : Oracles) (p : ParamSet) (kp : PublicKey × PrivateKey) : Prop where
  pk : PkOk p kp.1
  sk : SkOk p kp.2
  lens : kp.2.key.length = 32 ∧ kp.2.tr.length = 64 ∧ kp.2.rho = kp.1.rho ∧ kp.2.tr = kp.1.tr
  vecs : ∃ s1 s2 t0 t1 pkb, VecIn p.l (-p.eta) p.eta s1 ∧ VecIn p.k (-p.eta) p.eta s2 ∧ VecIn p.k (-4095) 4096 t0 ∧ VecIn p.k 0 1023 t1 ∧
    nttMont m s1 = .ok kp.2.s1 ∧ nttMont m s2 = .ok kp.2.s2 ∧ nttMont m t0 = .ok kp.2.t0 ∧ precomputeT1 m t1 = .ok kp.1.t1d2 ∧
    pkEncode m p kp.1.rho t1 = .ok pkb ∧ kp.1.tr = O.h pkb 64 ∧
    ∃ aHat s1Hat as1 w t, expandA m O false p kp.1.rho = .ok aHat ∧
      (aHat.length = p.k ∧ ∀ row ∈ aHat, row.length = p.l ∧ ∀ q ∈ row, q.length = 256 ∧ Res q) ∧ ntt m s1 = .ok s1Hat ∧
      matVecMul m aHat s1Hat = .ok as1 ∧ invNtt m as1 = .ok w ∧
      (do let tnr ← addVectorNtt m w s2; tnr.mapM (fun q : Poly => q.mapM (full_reduce32 m))) = .ok t ∧ power2round m t = .ok (t1, t0)

/-- what the signer needs of a private-key struct *in terms of the vectors it represents* -/
structure SkOf (m : Mode) (p : ParamSet) (sk : PrivateKey) (s1 s2 t0 : List Poly) : Prop where
  rho : sk.rho.length = 32
  v1 : VecIn p.l (-p.eta) p.eta s1
  v2 : VecIn p.k (-p.eta) p.eta s2
  v0 : VecIn p.k (-4095) 4096 t0
  n1 : nttMont m s1 = .ok sk.s1
  n2 : nttMont m s2 = .ok sk.s2
  n0 : nttMont m t0 = .ok sk.t0

theorem SkOf.skOk {m : Mode} {p : ParamSet} {sk : PrivateKey} {s1 s2 t0 : List Poly} (h : SkOf m p sk s1 s2 t0) (he : 0 ≤ p.eta ∧ p.eta ≤ 4) :
    SkOk p sk := by
  obtain ⟨a1, ha1, v1⟩ := nttMont_c m (h.v1.mono (lo' := -524288) (hi' := 524288) (by omega) (by omega))
  obtain ⟨a2, ha2, v2⟩ := nttMont_c m (h.v2.mono (lo' := -524288) (hi' := 524288) (by omega) (by omega))
  obtain ⟨a0, ha0, v0⟩ := nttMont_c m (h.v0.mono (lo' := -524288) (hi' := 524288) (by omega) (by omega))
  obtain rfl := ok_inj (h.n1.symm.trans ha1)
  obtain rfl := ok_inj (h.n2.symm.trans ha2)
  obtain rfl := ok_inj (h.n0.symm.trans ha0)
  exact ⟨h.rho, v1.1, v2.1, v0.1, v1.2, v2.2, v0.2⟩

theorem expandPrivate_skOf (m : Mode) (p : ParamSet) (he : 0 ≤ p.eta ∧ p.eta ≤ 4) (skb : List Nat) (sk : PrivateKey)
    (h : expandPrivate m p skb = .ok (some sk)) :
    ∃ d, skDecode m p skb = .ok (some d) ∧ sk.rho = d.rho ∧ sk.key = d.key ∧ sk.tr = d.tr ∧ SkOf m p sk d.s1 d.s2 d.t0 := by
  unfold expandPrivate at h
  obtain ⟨r, hr, h⟩ := bind_ok_inv h
  cases r with
  | none => exact nomatch ok_inj h
  | some d =>
    simp only [] at h
    obtain ⟨a1, h1, h⟩ := bind_ok_inv h
    obtain ⟨a2, h2, h⟩ := bind_ok_inv h
    obtain ⟨a0, h0, h⟩ := bind_ok_inv h
    obtain rfl := Option.some.inj (ok_inj h)
    obtain ⟨hrho, v1, v2, v0⟩ := skDecode_accepts m p skb d ⟨he.1, by omega⟩ hr
    exact ⟨d, hr, rfl, rfl, rfl, hrho, v1, v2, v0, h1, h2, h0⟩

theorem GenOk.skOf {m : Mode} {O : Oracles} {p : ParamSet} {kp : PublicKey × PrivateKey} (hg : GenOk m O p kp) :
    ∃ s1 s2 t0 t1 pkb, SkOf m p kp.2 s1 s2 t0 ∧ VecIn p.k 0 1023 t1 ∧ precomputeT1 m t1 = .ok kp.1.t1d2 ∧
      pkEncode m p kp.1.rho t1 = .ok pkb ∧ kp.1.tr = O.h pkb 64 := by
  obtain ⟨s1, s2, t0, t1, pkb, v1, v2, v0, vt, n1, n2, n0, pc, pe, htr, _⟩ := hg.vecs
  exact ⟨s1, s2, t0, t1, pkb, ⟨hg.sk.rho, v1, v2, v0, n1, n2, n0⟩, vt, pc, pe, htr⟩

end Fips204.Impl
