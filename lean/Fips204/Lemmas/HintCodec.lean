import Fips204.Lemmas.DigitCodec
import Fips204.Lemmas.SpecHint
/-!
  The crate's `hint_bit_unpack` and `hint_bit_pack` (`conversion.rs`) are FIPS 204 Algorithms 21 and 20 as written (`Spec/Codec.lean`),
  in both build modes: on every byte string of length `omega + k` the same accept / reject decision and the same hint vector, and never a
  fault; on every 0/1 vector of weight at most omega the same bytes.  The loops of both run in lock step with the standard's (the
  encoder's writes are in bounds because `Index` stays within omega).  What `Lemmas/SpecHint` says of the standard's two functions then holds of the crate's: the round trips, and that what
  the decoder accepts is well formed.
-/
namespace Fips204.Impl
open Fips204 Fips204.Gen

/-- the `while` loop in lock step with the standard's; the write `h[i][y[index]] = 1` is in bounds because `y` consists of bytes -/
theorem hintInner_is_spec (y : List Nat) (hy : ∀ b ∈ y, b < 256) (first limit : Nat) (hl : limit ≤ y.length) :
    ∀ (fuel index : Nat) (hp : Poly), hp.length = 256 →
      hintInner y first limit fuel index hp = .ok (Spec.hintWhile y first limit fuel index hp) := by
  intro fuel
  induction fuel with
  | zero => intro index hp _; rfl
  | succ fuel ih =>
    intro index hp hb
    unfold hintInner Spec.hintWhile
    by_cases hlt : index < limit
    · rw [if_pos hlt, if_pos hlt, idx_eq _ y index (by omega), ok_bind]
      have hcur : y[index]'(by omega) < hp.length := by rw [hb]; exact hy _ (List.getElem_mem _)
      rw [getD_nat_of_lt y index (by omega)]
      by_cases hf : index > first
      · rw [if_pos hf, idx_eq _ y (index - 1) (by omega), ok_bind, getD_nat_of_lt y (index - 1) (by omega)]
        by_cases hge : y[index - 1]'(by omega) ≥ y[index]'(by omega)
        · rw [if_pos hge, if_pos ⟨hf, hge⟩]; rfl
        · rw [if_neg hge, if_neg (show ¬ (index > first ∧ y[index - 1]'(by omega) ≥ y[index]'(by omega)) from fun h => hge h.2), if_pos hcur]
          exact ih (index + 1) _ (by simp [hb])
      · rw [if_neg hf, if_neg (show ¬ (index > first ∧ y.getD (index - 1) 0 ≥ y[index]'(by omega)) from fun h => hf h.1), if_pos hcur]
        exact ih (index + 1) _ (by simp [hb])
    · rw [if_neg hlt, if_neg hlt]; rfl

theorem hintOuter_is_spec (m : Mode) (y : List Nat) (hy : ∀ b ∈ y, b < 256) (om : Nat) :
    ∀ (is : List Nat) (index : Nat) (acc : List Poly), (∀ i ∈ is, om + i < y.length) →
      hintOuter m y om om is index acc = .ok (Spec.hintFor y om is index acc) := by
  intro is
  induction is with
  | nil => intro index acc _; rfl
  | cons i is ih =>
    intro index acc hi
    unfold hintOuter Spec.hintFor
    have hil : om + i < y.length := hi i List.mem_cons_self
    rw [idx_eq _ y (om + i) hil, ok_bind, getD_nat_of_lt y (om + i) hil]
    by_cases hrej : y[om + i] < index ∨ y[om + i] > om
    · have : (decide (y[om + i] < index) || decide (y[om + i] > om)) = true := by
        rcases hrej with h | h <;> simp [h]
      rw [if_pos this, if_pos hrej]; rfl
    · have : ¬ ((decide (y[om + i] < index) || decide (y[om + i] > om)) = true) := by
        simp only [Bool.or_eq_true, decide_eq_true_eq]; exact hrej
      rw [if_neg this, if_neg hrej]
      have hlim : y[om + i] ≤ y.length := by omega
      rw [hintInner_is_spec y hy index y[om + i] hlim 256 index zeroPoly zeroPoly_length, ok_bind]
      have hz : zeroPoly = List.replicate 256 (0 : Int) := rfl
      rw [hz]
      cases Spec.hintWhile y index y[om + i] 256 index (List.replicate 256 0) with
      | none => rfl
      | some r =>
        obtain ⟨index', hp⟩ := r
        exact ih index' (hp :: acc) (fun x hx => hi x (List.mem_cons_of_mem _ hx))

theorem mapM_idx_getD (site : String) (y : List Nat) (index n : Nat) (hn : n = 0 ∨ index + n ≤ y.length) :
    (List.range n).mapM (fun d => idx site y (index + d)) = .ok ((List.range n).map (fun d => y.getD (index + d) 0)) :=
  mapM_pure _ _ _ fun d hd => by
    have := List.mem_range.mp hd
    rw [idx_eq _ y (index + d) (by omega), getD_nat_of_lt y _ (by omega)]

/-- **`hint_bit_unpack` is FIPS 204 Algorithm 21 (`HintBitUnpack`) as written**: for every byte string of length `omega + k`
    (all three parameter sets satisfy `omega + k < 256`), in both build modes -/
theorem hintBitUnpack_is_algorithm_21 (m : Mode) (k : Nat) (omega : Int) (y : List Nat) (hy : ∀ b ∈ y, b < 256)
    (ho : 0 ≤ omega) (hk : 1 ≤ omega.toNat + k ∧ omega.toNat + k < 256) (hlen : y.length = omega.toNat + k) :
    hintBitUnpack m k omega y = .ok (Spec.hintBitUnpack omega.toNat k y) := by
  unfold hintBitUnpack Spec.hintBitUnpack
  rw [if_neg (by omega)]
  simp only [dassert_dec m _ _ (show (decide (1 ≤ omega.toNat + k) && decide (omega.toNat + k < 256)) = true by simp; omega),
    dassert_dec m _ _ (show (y.length == omega.toNat + k) = true by simp [hlen]), ok_bind, Nat.mod_eq_of_lt (show omega.toNat < 256 by omega),
    hintOuter_is_spec m y hy omega.toNat (List.range k) 0 [] (fun i hi => by have := List.mem_range.mp hi; omega)]
  cases hf : Spec.hintFor y omega.toNat (List.range k) 0 [] with
  | none => rfl
  | some r =>
    obtain ⟨index, h⟩ := r
    -- `Index` has not passed omega, and the polynomials have at most as many ones as it counts
    obtain ⟨_, hi, hw⟩ := spec_hintFor_weight y omega.toNat (List.range k) 0 [] index h hf (Nat.zero_le _)
    dsimp only
    rw [mapM_idx_getD _ y index _ (by omega), ok_bind, List.any_map]
    cases hp : (List.range (omega.toNat - index)).any ((fun b => decide (b ≠ 0)) ∘ fun d => y.getD (index + d) 0) with
    | true => simp only [Function.comp_def] at hp; rw [hp]; rfl
    | false =>
      simp only [Function.comp_def] at hp
      rw [hp, if_neg (by simp), dassert_dec m _ _ (List.all_eq_true.mpr fun q hq => by
        have := ones_le_onesAll _ q hq
        have : onesAll ([] : List Poly) = 0 := rfl
        rw [countOnes_eq]
        simp only [decide_eq_true_eq]
        omega), ok_bind]
      rfl

theorem packInner_step (outLen : Nat) (Y : List Nat) (idx j : Nat) (e : Int) :
    hintPackInner false outLen (Y, idx) (j, e) =
      if e ≠ 0 then (if idx < Y.length then .ok (Y.set idx (j % 256), idx + 1)
        else .error (Fault.oob "conversion.rs:hint_bit_pack:y_bytes[index]")) else .ok (Y, idx) := by
  unfold hintPackInner setAt
  simp only [Bool.false_and, Bool.false_eq_true, if_false, Bool.false_or, decide_eq_true_eq]
  by_cases he : e ≠ 0
  · rw [if_pos he, if_pos he]
    by_cases hi : idx < Y.length
    · rw [if_pos hi, if_pos hi, pure_eq, ok_bind, pure_eq]
    · rw [if_neg hi, if_neg hi]; rfl
  · rw [if_neg he, if_neg he, pure_eq]

theorem packInner_is_spec (outLen : Nat) : ∀ (L : List (Nat × Int)) (Y : List Nat) (idx : Nat), (∀ je ∈ L, je.1 < 256) →
    idx + (nzIdx L).length ≤ Y.length → L.foldlM (hintPackInner false outLen) (Y, idx) = .ok (Spec.hintPackPoly L Y idx) := by
  intro L
  induction L with
  | nil => intro Y idx _ _; rfl
  | cons je L ih =>
    intro Y idx hj h
    obtain ⟨j, e⟩ := je
    have hj' := fun x hx => hj x (List.mem_cons_of_mem _ hx)
    rw [nzIdx_cons] at h
    rw [List.foldlM_cons, packInner_step, Spec.hintPackPoly]
    by_cases he : e ≠ 0
    · rw [if_pos he, List.length_cons] at h
      rw [if_pos he, if_pos he, if_pos (by omega), ok_bind, Nat.mod_eq_of_lt (hj (j, e) List.mem_cons_self)]
      exact ih _ _ hj' (by rw [List.length_set]; omega)
    · rw [if_neg he] at h
      rw [if_neg he, if_neg he, ok_bind]
      exact ih Y idx hj' h

theorem packOuter_is_spec (om k : Nat) (hok : om + k < 256) : ∀ (zs : List (Nat × Poly)) (Y : List Nat) (idx : Nat), Y.length = om + k →
    (∀ ip ∈ zs, ip.1 < k) → idx + ((zs.map fun ip => nzI ip.2).flatten).length ≤ om →
    ∃ idx', zs.foldlM (hintPackOuter false (om + k) om) (Y, idx) = .ok (Spec.hintPackFor om zs Y idx, idx') := by
  intro zs
  induction zs with
  | nil => intro Y idx _ _ _; exact ⟨idx, rfl⟩
  | cons ip zs ih =>
    intro Y idx hY hi hle
    obtain ⟨i, p⟩ := ip
    rw [List.map_cons, List.flatten_cons, List.length_append] at hle
    change idx + ((nzIdx (List.zip (List.range 256) p)).length + _) ≤ om at hle
    have hz : ∀ je ∈ List.zip (List.range 256) p, je.1 < 256 := fun je hje => List.mem_range.mp (List.of_mem_zip hje).1
    have hi0 := hi (i, p) List.mem_cons_self
    rw [List.foldlM_cons, Spec.hintPackFor]
    unfold hintPackOuter setAt
    dsimp only
    rw [packInner_is_spec _ _ Y idx hz (by omega), ok_bind, spec_hintPackPoly_eq _ Y idx hz]
    dsimp only
    rw [if_pos (by rw [wr_length, hY]; omega), pure_eq, ok_bind, pure_eq, ok_bind, Nat.mod_eq_of_lt (by omega)]
    exact ih _ _ (by rw [List.length_set, wr_length, hY]) (fun x hx => hi x (List.mem_cons_of_mem _ hx)) (by omega)

/-- **`hint_bit_pack` is FIPS 204 Algorithm 20 (`HintBitPack`) as written**, on every 0/1 hint vector with at most omega ones; never a fault -/
theorem hintBitPack_is_algorithm_20 (m : Mode) (omega : Int) (h : List Poly) (k : Nat) (ho : 0 ≤ omega) (hk : h.length = k)
    (hok : 1 ≤ omega.toNat + k ∧ omega.toNat + k < 256) (hb : ∀ q ∈ h, Bin q) (hsum : onesAll h ≤ omega.toNat) :
    hintBitPack m false omega h (omega.toNat + k) = .ok (Spec.hintBitPack omega.toNat h) := by
  subst hk
  obtain ⟨idx', hf⟩ := packOuter_is_spec omega.toNat h.length hok.2 (List.zip (List.range h.length) h) (List.replicate (omega.toNat + h.length) 0) 0
    List.length_replicate (fun ip hip => List.mem_range.mp (List.of_mem_zip hip).1)
    (by rw [Nat.zero_add, show (List.zip (List.range h.length) h).map (fun ip => nzI ip.2) = ((List.zip (List.range h.length) h).map Prod.snd).map nzI
        from (List.map_map (g := nzI) (f := Prod.snd)).symm, List.map_snd_zip (by rw [List.length_range]; exact Nat.le_refl _), flatten_nzI_length h hb]; exact hsum)
  unfold hintBitPack
  rw [if_neg (by omega)]
  dsimp only
  rw [dassert_dec m _ _ (by simp; omega), ok_bind, dassert_dec m _ _ (by simp), ok_bind,
    dassertM_eq m _ _ (mapM_isInRange_true m h 0 1 (by omega) fun q hq c hc => by rcases (hb q hq).2 c hc with h0 | h1 <;> omega),
    ok_bind,
    dassert_dec m _ _ (List.all_eq_true.mpr fun q hq => by
      have := ones_le_onesAll h q hq
      rw [countOnes_eq]
      simp only [decide_eq_true_eq]
      omega), ok_bind, hf]
  rfl

theorem hintBitUnpack_ok (m : Mode) (k : Nat) (omega : Int) (y : List Nat) (hy : ∀ b ∈ y, b < 256)
    (ho : 0 ≤ omega) (hk : 1 ≤ omega.toNat + k ∧ omega.toNat + k < 256) (hlen : y.length = omega.toNat + k) :
    ∃ r, hintBitUnpack m k omega y = .ok r ∧ ∀ h, r = some h → h.length = k ∧ ∀ q ∈ h, Bin q ∧ ones q ≤ omega.toNat := by
  refine ⟨_, hintBitUnpack_is_algorithm_21 m k omega y hy ho hk hlen, fun h hh => ?_⟩
  obtain ⟨hsh, hb, hw, _⟩ := spec_hintBitUnpack_inv omega.toNat k y hk.2 hy hlen h hh
  exact ⟨hsh.1, fun q hq => ⟨hb q hq, Nat.le_trans (ones_le_onesAll h q hq) hw⟩⟩

theorem hintBitPack_hintBitUnpack (m : Mode) (k : Nat) (omega : Int) (y : List Nat) (hy : ∀ b ∈ y, b < 256)
    (ho : 0 ≤ omega) (hk : 1 ≤ omega.toNat + k ∧ omega.toNat + k < 256) (hlen : y.length = omega.toNat + k)
    (h : List Poly) (hdec : hintBitUnpack m k omega y = .ok (some h)) :
    hintBitPack m false omega h (omega.toNat + k) = .ok y := by
  rw [hintBitUnpack_is_algorithm_21 m k omega y hy ho hk hlen] at hdec
  obtain ⟨hsh, hb, hw, hp⟩ := spec_hintBitUnpack_inv omega.toNat k y hk.2 hy hlen h (ok_inj hdec)
  rw [hintBitPack_is_algorithm_20 m omega h k ho hsh.1 hk hb hw, hp]

theorem hintBitUnpack_hintBitPack (m : Mode) (k : Nat) (omega : Int) (h : List Poly) (ho : 0 ≤ omega)
    (hk : 1 ≤ omega.toNat + k ∧ omega.toNat + k < 256) (hl : h.length = k) (hb : ∀ q ∈ h, Bin q) (hsum : onesAll h ≤ omega.toNat)
    (y : List Nat) (hp : hintBitPack m false omega h (omega.toNat + k) = .ok y) : hintBitUnpack m k omega y = .ok (some h) := by
  obtain ⟨hlen, hbytes, hdec⟩ := spec_hintBitUnpack_hintBitPack omega.toNat k h hk.2 hl hb hsum
  obtain rfl : Spec.hintBitPack omega.toNat h = y := ok_inj ((hintBitPack_is_algorithm_20 m omega h k ho hl hk hb hsum).symm.trans hp)
  rw [hintBitUnpack_is_algorithm_21 m k omega _ hbytes ho hk hlen, hdec]

theorem hintBitUnpack_accepts_only_wellformed (m : Mode) (k : Nat) (omega : Int) (y : List Nat) (hy : ∀ b ∈ y, b < 256)
    (ho : 0 ≤ omega) (hk : 1 ≤ k ∧ omega.toNat + k < 256) (hlen : y.length = omega.toNat + k)
    (h : List Poly) (hdec : hintBitUnpack m k omega y = .ok (some h)) :
    hintWF y omega.toNat omega.toNat k 0 0 ∧
      ∀ p, y.getD (omega.toNat + k - 1) 0 ≤ p → p < omega.toNat → y.getD p 0 = 0 := by
  rw [hintBitUnpack_is_algorithm_21 m k omega y hy ho ⟨by omega, hk.2⟩ hlen] at hdec
  exact spec_hintBitUnpack_wellformed omega.toNat k y hk hlen h (ok_inj hdec)

end Fips204.Impl
