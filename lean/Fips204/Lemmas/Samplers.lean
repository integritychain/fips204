import Fips204.Lemmas.KernelsRound
import Fips204.Lemmas.NoPanic
import Fips204.Lemmas.Params
import Fips204.Lemmas.SpecCodec
/-! The expanders (`rej_ntt_poly`, `expand_a`, `rej_bounded_poly`, `expand_s`, `expand_mask`): no fault other than the
    model-only `Fault.fuel` (the crate squeezes the XOF without bound; the model reads a finite prefix), and the shape / range
    of what they return.  Each is first characterised: the crate's function is the standard's (`Spec/Sample.lean`) on the same
    stream, shape and range are proved of the standard's pure recursion, and the no-panic theorems are corollaries
    (`NoPanic.of_eq_spec`).  The constant-time test mode of `rej_ntt_poly` / `expand_a`, which verification passes through, is
    Algorithm 30 on the stream with every third byte cut to six bits (`mask3`).
    (Algorithm 29 is characterised in `Lemmas/SampleInBall`.) -/
namespace Fips204.Impl
open Fips204 Fips204.Gen Fips204.K

theorem spec_coeffFromThreeBytes_range (b0 b1 b2 : Int) (h0 : 0 ≤ b0) (h1 : 0 ≤ b1) (h2 : 0 ≤ b2) :
    ∀ z, Spec.coeffFromThreeBytes b0 b1 b2 = some z → 0 ≤ z ∧ z ≤ 8380416 := by
  intro z hz
  unfold Spec.coeffFromThreeBytes at hz
  simp only [Q] at hz
  generalize hd : (if b2 > 127 then b2 - 128 else b2) = d at hz
  have hd0 : 0 ≤ d := by rw [← hd]; split <;> omega
  split at hz
  · obtain rfl := Option.some.inj hz
    omega
  · cases hz

theorem rejNtt_props : ∀ (n : Nat) (s : List Nat) (acc r : List Int), acc.length ≤ 256 → Res acc → Spec.rejNtt n s acc = some r →
    r.length = 256 ∧ Res r := by
  intro n
  induction n with
  | zero => intro s acc r _ _ h; cases h
  | succ n ih =>
    intro s acc r hl ha h
    unfold Spec.rejNtt at h
    by_cases hfull : acc.length ≥ 256
    · rw [if_pos hfull] at h
      cases h
      exact ⟨by rw [List.length_reverse]; omega, fun x hx => ha x (List.mem_reverse.mp hx)⟩
    · rw [if_neg hfull] at h
      split at h
      · next b0 b1 b2 rest =>
        cases hv : Spec.coeffFromThreeBytes b0 b1 b2 with
        | none =>
          rw [hv] at h
          exact ih rest acc r hl ha h
        | some v =>
          rw [hv] at h
          exact ih rest (v :: acc) r (by rw [List.length_cons]; omega)
            (fun x hx => (List.mem_cons.mp hx).elim (fun e => e ▸ spec_coeffFromThreeBytes_range _ _ _ (by omega) (by omega) (by omega) v hv) (ha x)) h
      · cases h

theorem spec_expandA_in (G : List Nat → List Nat) (k l : Nat) (rho : List Nat) (aHat : List (List Poly))
    (h : Spec.expandA G k l rho = some aHat) : MatIn k l aHat := by
  obtain ⟨hk, hrows⟩ := mapM_some _ _ _ h
  refine ⟨by rw [hk, List.length_range], fun row hrow => ?_⟩
  obtain ⟨r, _, hr⟩ := hrows row hrow
  obtain ⟨hl, hpolys⟩ := mapM_some _ _ _ hr
  refine ⟨by rw [hl, List.length_range], fun q hq => ?_⟩
  obtain ⟨s, _, hs⟩ := hpolys q hq
  exact rejNtt_props _ _ [] q (Nat.zero_le _) (fun _ hx => nomatch hx) hs

/-- the stream `rej_ntt_poly` decodes: in constant-time test mode (`coeff_from_three_bytes::<true>`) the third byte of each draw keeps its
    six low bits, so that no draw is rejected -/
def mask3 (ctest : Bool) : List Nat → List Nat
  | b0 :: b1 :: b2 :: rest => b0 :: b1 :: (if ctest then b2 % 64 else b2) :: mask3 ctest rest
  | s => s

theorem mask3_false : ∀ s, mask3 false s = s
  | b0 :: b1 :: b2 :: rest => by rw [mask3, mask3_false rest]; rfl
  | [] => rfl
  | [_] => rfl
  | [_, _] => rfl

theorem rejNttLoop_is_spec (m : Mode) (ctest : Bool) : ∀ (fuel : Nat) (s : List Nat) (acc : List Int), (∀ b ∈ s, b < 256) →
    rejNttLoop m ctest fuel s acc = ofSpec "hashing.rs:rej_ntt_poly:stream" (Spec.rejNtt fuel (mask3 ctest s) acc) := by
  intro fuel
  induction fuel with
  | zero => intro s acc _; rfl
  | succ n ih =>
    intro s acc hs
    unfold rejNttLoop Spec.rejNtt
    by_cases hl : acc.length ≥ 256
    · rw [if_pos hl, if_pos hl]; rfl
    · rw [if_neg hl, if_neg hl]
      match s, hs with
      | [], _ => rfl
      | [_], _ => rfl
      | [_, _], _ => rfl
      | b0 :: b1 :: b2 :: rest, hs =>
        have h0 : b0 < 256 := hs b0 (by simp)
        have h1 : b1 < 256 := hs b1 (by simp)
        have h2 : b2 < 256 := hs b2 (by simp)
        have hr : ∀ b ∈ rest, b < 256 := fun b hb => hs b (by simp [hb])
        have e : (if ctest then (b2 : Int) % 64 else (b2 : Int)) = ((if ctest then b2 % 64 else b2 : Nat) : Int) := by cases ctest <;> rfl
        dsimp only [mask3]
        rw [K.coeff3_ctest_eq m ctest b0 b1 b2 (by omega) (by omega) (by omega), ok_bind, e]
        cases Spec.coeffFromThreeBytes ↑b0 ↑b1 ↑(if ctest then b2 % 64 else b2) with
        | none => exact ih rest acc hr
        | some v => exact ih rest (v :: acc) hr

theorem rejNttPoly_eq (m : Mode) (O : Oracles) (hO : OracleOk O) (ctest : Bool) (rho : List Nat) (hr : rho.length = 34) :
    rejNttPoly m O ctest rho = ofSpec "hashing.rs:rej_ntt_poly:stream"
      (Spec.rejNtt (1680 * O.fuelScale / 3 + 2) (mask3 ctest (O.g rho (1680 * O.fuelScale))) []) := by
  unfold rejNttPoly
  rw [dassert_dec m _ _ (by simp [hr]), ok_bind]
  exact rejNttLoop_is_spec m ctest _ _ _ (hO.gbyte rho _)

theorem rejNttPoly_np (m : Mode) (O : Oracles) (hO : OracleOk O) (ctest : Bool) (rho : List Nat) (hr : rho.length = 34) :
    NoPanic (rejNttPoly m O ctest rho) (fun r => r.length = 256 ∧ Res r) :=
  NoPanic.of_eq_spec (rejNttPoly_eq m O hO ctest rho hr) fun r h => rejNtt_props _ _ [] r (Nat.zero_le _) (fun _ hx => nomatch hx) h

theorem expandA_np (m : Mode) (O : Oracles) (hO : OracleOk O) (ctest : Bool) (p : ParamSet) (rho : List Nat) (hr : rho.length = 32) :
    NoPanic (expandA m O ctest p rho) (MatIn p.k p.l) := by
  unfold expandA
  refine (mapM_np _ (fun row : List Poly => row.length = p.l ∧ ∀ q ∈ row, q.length = 256 ∧ Res q) (List.range p.k) (fun r _ => ?_)).mono
    (fun a ha => ⟨by rw [ha.1, List.length_range], ha.2⟩)
  refine (mapM_np _ (fun q : Poly => q.length = 256 ∧ Res q) (List.range p.l) (fun s _ => ?_)).mono
    (fun a ha => ⟨by rw [ha.1, List.length_range], ha.2⟩)
  exact rejNttPoly_np m O hO ctest _ (by simp [hr])

theorem rejNttPoly_is_spec (m : Mode) (O : Oracles) (hO : OracleOk O) (rho : List Nat) (hr : rho.length = 34) :
    rejNttPoly m O false rho = ofSpec "hashing.rs:rej_ntt_poly:stream" (Spec.rejNTTPoly (O.g rho (1680 * O.fuelScale))) := by
  rw [rejNttPoly_eq m O hO false rho hr, mask3_false, Spec.rejNTTPoly, hO.glen]

/-- **`expand_a` is FIPS 204 Algorithm 32 (`ExpandA`) as written**, for every seed of 32 bytes -/
theorem expandA_is_algorithm_32 (m : Mode) (O : Oracles) (hO : OracleOk O) (p : ParamSet) (rho : List Nat) (hr : rho.length = 32) :
    expandA m O false p rho =
      ofSpec "hashing.rs:rej_ntt_poly:stream" (Spec.expandA (fun x => O.g x (1680 * O.fuelScale)) p.k p.l rho) := by
  unfold expandA Spec.expandA
  rw [← mapM_ofSpec]
  congr 1
  funext r
  rw [← mapM_ofSpec]
  congr 1
  funext s
  exact rejNttPoly_is_spec m O hO _ (by simp [hr])

theorem spec_coeffFromHalfByte_range (eta b : Int) (he : eta = 2 ∨ eta = 4) (hb : 0 ≤ b ∧ b ≤ 15) :
    ∀ v, Spec.coeffFromHalfByte eta b = some v → -eta ≤ v ∧ v ≤ eta := by
  intro v hv
  unfold Spec.coeffFromHalfByte at hv
  rcases he with rfl | rfl
  · split at hv
    · simp only [Option.some.injEq] at hv; omega
    · split at hv
      · omega
      · cases hv
  · split at hv
    · omega
    · split at hv
      · simp only [Option.some.injEq] at hv; omega
      · cases hv

/-! the two conditional appends of Algorithm 31 (lines 9-14) keep a bound on the entries and on the length -/

theorem push_props {P : Int → Prop} (acc : List Int) (o : Option Int) (ha : ∀ x ∈ acc, P x) (ho : ∀ v, o = some v → P v) :
    (∀ x ∈ (match o with | some v => v :: acc | none => acc), P x) ∧
      (match o with | some v => v :: acc | none => acc).length ≤ acc.length + 1 := by
  cases o with
  | none => exact ⟨ha, Nat.le_succ _⟩
  | some v => exact ⟨fun x hx => (List.mem_cons.mp hx).elim (fun e => e ▸ ho v rfl) (ha x), Nat.le_refl _⟩

theorem push_lt_props {P : Int → Prop} (acc : List Int) (o : Option Int) (ha : ∀ x ∈ acc, P x) (ho : ∀ v, o = some v → P v)
    (h : acc.length ≤ 256) :
    (∀ x ∈ (match o with | some v => if acc.length < 256 then v :: acc else acc | none => acc), P x) ∧
      (match o with | some v => if acc.length < 256 then v :: acc else acc | none => acc).length ≤ 256 := by
  cases o with
  | none => exact ⟨ha, h⟩
  | some v =>
    dsimp only
    split
    · exact ⟨fun x hx => (List.mem_cons.mp hx).elim (fun e => e ▸ ho v rfl) (ha x), by rw [List.length_cons]; omega⟩
    · exact ⟨ha, h⟩

theorem rejBounded_props (eta : Int) (he : eta = 2 ∨ eta = 4) : ∀ (n : Nat) (s : List Nat) (acc r : List Int), (∀ b ∈ s, b < 256) →
    acc.length ≤ 256 → (∀ x ∈ acc, -eta ≤ x ∧ x ≤ eta) → Spec.rejBounded eta n s acc = some r → PolyIn (-eta) eta r := by
  intro n
  induction n with
  | zero => intro s acc r _ _ _ h; cases h
  | succ n ih =>
    intro s acc r hs hl ha h
    unfold Spec.rejBounded at h
    by_cases hfull : acc.length ≥ 256
    · rw [if_pos hfull] at h
      cases h
      exact ⟨by rw [List.length_reverse]; omega, fun x hx => ha x (List.mem_reverse.mp hx)⟩
    · rw [if_neg hfull] at h
      cases s with
      | nil => cases h
      | cons z rest =>
        have hz := hs z List.mem_cons_self
        have r0 := spec_coeffFromHalfByte_range eta ((z : Int) % 16) he (by omega)
        have r1 := spec_coeffFromHalfByte_range eta ((z : Int) / 16) he (by omega)
        obtain ⟨a0, l0⟩ := push_props acc _ ha r0
        obtain ⟨a1, l1⟩ := push_lt_props _ _ a0 r1 (by omega)
        exact ih rest _ r (fun b hb => hs b (List.mem_cons_of_mem _ hb)) l1 a1 h

theorem rejBoundedLoop_is_spec (m : Mode) (eta : Int) (he : eta = 2 ∨ eta = 4) : ∀ (fuel : Nat) (s : List Nat) (acc : List Int), (∀ b ∈ s, b < 256) →
    rejBoundedLoop m false eta fuel s acc = ofSpec "hashing.rs:rej_bounded_poly:stream" (Spec.rejBounded eta fuel s acc) := by
  intro fuel
  induction fuel with
  | zero => intro s acc _; rfl
  | succ n ih =>
    intro s acc hs
    unfold rejBoundedLoop Spec.rejBounded
    by_cases hl : acc.length ≥ 256
    · rw [if_pos hl, if_pos hl]; rfl
    · rw [if_neg hl, if_neg hl]
      cases s with
      | nil => rfl
      | cons z rest =>
        have hz : z < 256 := hs z List.mem_cons_self
        have hr : ∀ b ∈ rest, b < 256 := fun b hb => hs b (List.mem_cons_of_mem _ hb)
        dsimp only
        have e15 : band .u8 (z : Int) 15 = ((z % 16 : Nat) : Int) :=
          band_low .u8 z 15 4 (by decide) (by decide) (by omega) (show _ ≤ (255 : Int) by omega)
        rw [e15, K.coeffhalf_eq m eta _ he (by omega), ok_bind]
        have e16 : ((z : Int) / 16) = ((z / 16 : Nat) : Int) := by omega
        rw [e16, K.coeffhalf_eq m eta _ he (by omega), ok_bind]
        have c1 : ((z % 16 : Nat) : Int) = (z : Int) % 16 := by omega
        have c2 : ((z / 16 : Nat) : Int) = (z : Int) / 16 := by omega
        rw [c1, c2]
        exact ih rest _ hr

theorem rejBoundedPoly_is_spec (m : Mode) (O : Oracles) (hO : OracleOk O) (eta : Int) (he : eta = 2 ∨ eta = 4) (rho : List Nat) (hr : rho.length = 66) :
    rejBoundedPoly m O false eta rho = ofSpec "hashing.rs:rej_bounded_poly:stream" (Spec.rejBoundedPoly eta (O.h rho (1088 * O.fuelScale))) := by
  unfold rejBoundedPoly Spec.rejBoundedPoly
  have d : (rho.length == 66) = true := by rw [hr]; rfl
  rw [dassert_dec m _ _ d, ok_bind, hO.hlen]
  exact rejBoundedLoop_is_spec m eta he _ _ _ (hO.hbyte rho _)

theorem spec_expandS_in (O : Oracles) (hO : OracleOk O) (p : ParamSet) (he : p.eta = 2 ∨ p.eta = 4) (rho : List Nat)
    (s : List Poly × List Poly) (h : Spec.expandS (fun x => O.h x (1088 * O.fuelScale)) p.eta p.k p.l rho = some s) :
    VecIn p.l (-p.eta) p.eta s.1 ∧ VecIn p.k (-p.eta) p.eta s.2 := by
  have poly : ∀ (n : Nat) (f : Nat → List Nat) (v : List Poly),
      (List.range n).mapM (fun r => Spec.rejBoundedPoly p.eta (O.h (f r) (1088 * O.fuelScale))) = some v → VecIn n (-p.eta) p.eta v := by
    intro n f v hv
    obtain ⟨hl, hmem⟩ := mapM_some _ _ _ hv
    refine .of_polys (by rw [hl, List.length_range]) fun q hq => ?_
    obtain ⟨r, _, hq⟩ := hmem q hq
    exact rejBounded_props p.eta he _ _ [] q (hO.hbyte _ _) (Nat.zero_le _) (fun _ hx => nomatch hx) hq
  unfold Spec.expandS at h
  cases h1 : (List.range p.l).mapM (fun r => Spec.rejBoundedPoly p.eta (O.h (rho ++ [r % 256, 0]) (1088 * O.fuelScale))) with
  | none => rw [h1] at h; cases h
  | some s1 =>
    cases h2 : (List.range p.k).mapM (fun r => Spec.rejBoundedPoly p.eta (O.h (rho ++ [(r + p.l) % 256, 0]) (1088 * O.fuelScale))) with
    | none => rw [h1, h2] at h; cases h
    | some s2 =>
      rw [h1, h2] at h
      cases h
      exact ⟨poly _ _ s1 h1, poly _ _ s2 h2⟩

/-- **`expand_s` is FIPS 204 Algorithm 33 (`ExpandS`) as written**, for every seed of 64 bytes, eta in {2, 4} -/
theorem expandS_is_algorithm_33 (m : Mode) (O : Oracles) (hO : OracleOk O) (p : ParamSet) (he : p.eta = 2 ∨ p.eta = 4) (rho : List Nat) (hr : rho.length = 64) :
    expandS m O false p rho =
      ofSpec "hashing.rs:rej_bounded_poly:stream" (Spec.expandS (fun x => O.h x (1088 * O.fuelScale)) p.eta p.k p.l rho) := by
  have hshape := spec_expandS_in O hO p he rho
  unfold expandS Spec.expandS at *
  have f1 : (fun r => rejBoundedPoly m O false p.eta (rho ++ [r % 256, 0])) =
      (fun r => ofSpec "hashing.rs:rej_bounded_poly:stream" (Spec.rejBoundedPoly p.eta (O.h (rho ++ [r % 256, 0]) (1088 * O.fuelScale)))) := by
    funext r; exact rejBoundedPoly_is_spec m O hO p.eta he _ (by simp [hr])
  have f2 : (fun r => rejBoundedPoly m O false p.eta (rho ++ [(r + p.l) % 256, 0])) =
      (fun r => ofSpec "hashing.rs:rej_bounded_poly:stream" (Spec.rejBoundedPoly p.eta (O.h (rho ++ [(r + p.l) % 256, 0]) (1088 * O.fuelScale)))) := by
    funext r; exact rejBoundedPoly_is_spec m O hO p.eta he _ (by simp [hr])
  rw [f1, f2, mapM_ofSpec, mapM_ofSpec]
  cases h1 : (List.range p.l).mapM (fun r => Spec.rejBoundedPoly p.eta (O.h (rho ++ [r % 256, 0]) (1088 * O.fuelScale))) with
  | none => rfl
  | some s1 =>
    cases h2 : (List.range p.k).mapM (fun r => Spec.rejBoundedPoly p.eta (O.h (rho ++ [(r + p.l) % 256, 0]) (1088 * O.fuelScale))) with
    | none => rfl
    | some s2 =>
      rw [h1, h2] at hshape
      obtain ⟨v1, v2⟩ := hshape (s1, s2) rfl
      have eta0 : -2147483647 ≤ p.eta ∧ p.eta ≤ 2147483648 := by omega
      simp only [ofSpec, ok_bind]
      rw [dassertM_eq m _ _ (mapM_isInRange_true m s1 p.eta p.eta eta0 v1.2), ok_bind,
        dassertM_eq m _ _ (mapM_isInRange_true m s2 p.eta p.eta eta0 v2.2), ok_bind, pure_eq]

theorem expandS_np (m : Mode) (O : Oracles) (hO : OracleOk O) (p : ParamSet) (he : p.eta = 2 ∨ p.eta = 4) (rho : List Nat) (hr : rho.length = 64) :
    NoPanic (expandS m O false p rho) (fun s => VecIn p.l (-p.eta) p.eta s.1 ∧ VecIn p.k (-p.eta) p.eta s.2) :=
  NoPanic.of_eq_spec (expandS_is_algorithm_33 m O hO p he rho hr) (spec_expandS_in O hO p he rho)

theorem expandMask_eq (m : Mode) (O : Oracles) (hO : OracleOk O) (p : ParamSet) (blz : Nat) (cfg : SigCfg p blz) (rho : List Nat) (mu : Nat)
    (hmu : mu + p.l ≤ 65536) (hl : p.l ≤ 65535) :
    expandMask m O p rho (mu : Int) = .ok ((List.range p.l).map fun r =>
      decodeP (p.gamma1 - 1) p.gamma1 blz ((O.h (rho ++ [(mu + r) % 256, (mu + r) / 256 % 256]) 640).take (32 * blz))) := by
  have hg := cfg.gamma1_gt
  have hz := cfg.blz_le
  unfold expandMask
  rw [arith_i32 _ _ _ (by omega) (by omega), ok_bind, cfg.bitLen_pred m, ok_bind]
  dsimp only
  rw [cfg.blz_eq, dassert_dec m _ _ (by rcases cfg.g1 with ⟨_, h⟩ | ⟨_, h⟩ <;> simp [h]), ok_bind, if_neg (by omega),
    mapM_pure _ (fun r => decodeP (p.gamma1 - 1) p.gamma1 blz ((O.h (rho ++ [(mu + r) % 256, (mu + r) / 256 % 256]) 640).take (32 * blz))),
    ok_bind, dassertM_eq m _ _ (mapM_isInRange_true m _ (p.gamma1 - 1) p.gamma1 (by omega)
      (map_decodeP_exact_in _ _ blz cfg.pow p.l _).2), ok_bind, pure_eq]
  intro r hr
  have hr' : r < p.l := List.mem_range.mp hr
  have hn : arith .u16 m "hashing.rs:expand_mask:mu+r" ((mu : Int) + Int.ofNat r) = .ok ((mu : Int) + Int.ofNat r) :=
    arith_eq _ _ _ _ (by simp only [IT.lo]; have : (0:Int) ≤ Int.ofNat r := Int.natCast_nonneg _; omega)
      (by simp only [IT.hi]; have : Int.ofNat r < p.l := Int.ofNat_lt.mpr hr'; omega)
  -- the two counter bytes, as naturals (by the cast lemmas: `omega` on `%` and `/` of integers is dear to check)
  have ecast : (mu : Int) + Int.ofNat r = ((mu + r : Nat) : Int) := by simp
  have hb : mu + r < 65536 := by omega
  have e1 : (((mu : Int) + Int.ofNat r) % 256).toNat = (mu + r) % 256 := by
    rw [ecast]
    exact (congrArg Int.toNat (Int.natCast_emod (mu + r) 256).symm).trans (Int.toNat_natCast _)
  have e2 : (((mu : Int) + Int.ofNat r) / 256).toNat = (mu + r) / 256 % 256 := by
    rw [ecast, Nat.mod_eq_of_lt (Nat.div_lt_of_lt_mul hb)]
    exact (congrArg Int.toNat (Int.natCast_ediv (mu + r) 256).symm).trans (Int.toNat_natCast _)
  have hvl := hO.hlen (rho ++ [(mu + r) % 256, (mu + r) / 256 % 256]) 640
  rw [hn, ok_bind, e1, e2, slice_eq _ (O.h (rho ++ [(mu + r) % 256, (mu + r) / 256 % 256]) 640) 0 (32 * blz) (by constructor <;> omega), ok_bind]
  simp only [List.drop_zero, Nat.sub_zero]
  rw [bitUnpack_eq (cfg.pair m) _ (fun x hx => hO.hbyte _ _ x (List.mem_of_mem_take hx)) (by rw [List.length_take, hvl]; omega),
    if_pos (inR_decodeP_exact _ _ blz cfg.pow _), ok_bind]
  rfl

theorem expandMask_ok (m : Mode) (O : Oracles) (hO : OracleOk O) (p : ParamSet) (blz : Nat) (cfg : SigCfg p blz) (rho : List Nat) (mu : Int)
    (hmu : 0 ≤ mu ∧ mu + p.l ≤ 65536) (hl : p.l ≤ 65535) :
    ∃ ys, expandMask m O p rho mu = .ok ys ∧ VecIn p.l (-(p.gamma1 - 1)) p.gamma1 ys := by
  obtain ⟨n, rfl⟩ := Int.eq_ofNat_of_zero_le hmu.1
  exact ⟨_, expandMask_eq m O hO p blz cfg rho n (by omega) hl, map_decodeP_exact_in _ _ blz cfg.pow p.l _⟩

/-- **`expand_mask` is FIPS 204 Algorithm 34 (`ExpandMask`) as written** while the 16-bit counter has room
    (the crate squeezes 640 bytes and unpacks the first `32 c`; the standard asks for `32 c` bytes) -/
theorem expandMask_is_algorithm_34 (m : Mode) (O : Oracles) (hO : OracleOk O) (hP : OraclePrefix O) (p : ParamSet) (blz : Nat) (cfg : SigCfg p blz)
    (rho : List Nat) (mu : Nat) (hmu : mu + p.l ≤ 65536) (hl : p.l ≤ 65535) :
    expandMask m O p rho (mu : Int) = .ok (Spec.expandMask O.h blz p.gamma1 p.l rho mu) := by
  have hblz := cfg.blz_le
  have hg := cfg.gamma1_gt
  rw [expandMask_eq m O hO p blz cfg rho mu hmu hl, Spec.expandMask]
  congr 1
  refine List.map_congr_left fun r _ => ?_
  rw [hP _ 640 (32 * blz) (by omega), decodeP_is_spec _ _ blz _ (hO.hbyte _ _) (hO.hlen _ _), if_neg (show ¬ p.gamma1 - 1 = 0 by omega)]

end Fips204.Impl
