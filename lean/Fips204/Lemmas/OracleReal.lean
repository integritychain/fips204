import Fips204.Exec.Oracles
import Fips204.Lemmas.NoPanic
import Fips204.Spec.Format
/-!
  The SHAKE128 / SHAKE256 the model driver runs (`Exec/Keccak.lean`) meet what the theorems assume of an oracle: exactly `n` bytes on a request
  for `n` (`OracleOk`), and a shorter request returns a prefix of a longer one (`OraclePrefix`, used by `expand_mask_is_ExpandMask` and what is
  built on it).  So every theorem quantified over oracles applies to the concrete functions with which the model is executed against the crate,
  and the hypotheses are not vacuous.  (That `Exec/Keccak.lean` *is* Keccak-f[1600] with the SHAKE padding is not proved; it is validated
  against the `sha3` crate on every run.)
-/
namespace Fips204.Impl
open Fips204 Fips204.Gen Fips204.Exec

theorem squeezeL_length (rate : Nat) : ∀ (n : Nat) (st : Array UInt64) (opos : Nat), (squeezeL rate n st opos).length = n := by
  intro n
  induction n with
  | zero => intro st opos; rfl
  | succ n ih =>
    intro st opos
    unfold squeezeL
    split <;> simp [ih]

theorem squeezeL_take (rate : Nat) : ∀ (n k : Nat) (st : Array UInt64) (opos : Nat), k ≤ n →
    (squeezeL rate n st opos).take k = squeezeL rate k st opos := by
  intro n
  induction n with
  | zero =>
    intro k st opos hk
    have : k = 0 := by omega
    subst this
    rfl
  | succ n ih =>
    intro k st opos hk
    cases k with
    | zero => simp [squeezeL]
    | succ k =>
      unfold squeezeL
      split
      · simp only [List.take_succ_cons]
        rw [ih k _ _ (by omega)]
      · simp only [List.take_succ_cons]
        rw [ih k _ _ (by omega)]

theorem ofBA_mk (l : List UInt8) : ofBA (ByteArray.mk l.toArray) = l.map (fun x => x.toNat) := by
  simp [ofBA]

theorem shake_length (rate : Nat) (x : List Nat) (n : Nat) : (ofBA (shake rate (toBA x) n)).length = n := by
  unfold shake
  rw [ofBA_mk, List.length_map, squeezeL_length]

theorem shake_lt (rate : Nat) (x : List Nat) (n : Nat) : ∀ b ∈ ofBA (shake rate (toBA x) n), b < 256 := by
  unfold shake
  rw [ofBA_mk]
  intro b hb
  obtain ⟨u, _, rfl⟩ := List.mem_map.mp hb
  exact u.toNat_lt

theorem shake_prefix (rate : Nat) (x : List Nat) (n k : Nat) (hk : k ≤ n) :
    (ofBA (shake rate (toBA x) n)).take k = ofBA (shake rate (toBA x) k) := by
  unfold shake
  rw [ofBA_mk, ofBA_mk, ← List.map_take, squeezeL_take rate n k _ _ hk]

theorem driverOracles_ok (scale : Nat) : OracleOk (realOracles scale) :=
  ⟨fun x n => shake_length 136 x n, fun x n => shake_lt 136 x n, fun x n => shake_length 168 x n, fun x n => shake_lt 168 x n⟩

theorem driverOracles_prefix (scale : Nat) : OraclePrefix (realOracles scale) :=
  fun x n k hk => shake_prefix 136 x n k hk

theorem be32_length (x : UInt32) : (be32 x).length = 4 := rfl

theorem be64_length (x : UInt64) : (be64 x).length = 8 := rfl

theorem sha256_len (msg : List Nat) : (sha256 msg).length = 32 := by
  unfold sha256
  simp only [List.length_append, be32_length]

theorem sha512_len (msg : List Nat) : (sha512 msg).length = 64 := by
  unfold sha512
  simp only [List.length_append, be64_length]

theorem driverOracles_wf (scale : Nat) : Spec.WF (realOracles scale) :=
  ⟨sha256_len, sha512_len, fun x n => shake_length 168 x n, fun x n => shake_length 136 x n⟩

end Fips204.Impl
