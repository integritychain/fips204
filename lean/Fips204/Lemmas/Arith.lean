import Fips204.Basic
namespace Fips204

/-! Monad laws of `M` as *propositional* rewrite rules.  They are deliberately not proved by a bare
    `rfl`: `simp` would then use them definitionally and leave the kernel to re-check the step by
    evaluating the whole `do` block, which diverges on stuck `Nat.land/lor` terms. -/
theorem pure_eq {α} (a : α) : (pure a : M α) = Except.ok a := by
  show Except.pure a = Except.ok a; unfold Except.pure; exact rfl
theorem ok_bind {α β} (a : α) (f : α → M β) : (Except.ok a >>= f) = f a := by
  show Except.bind (Except.ok a) f = f a; unfold Except.bind; exact rfl
theorem error_bind {α β} (e : Fault) (f : α → M β) : ((Except.error e : M α) >>= f) = Except.error e := by
  show Except.bind (Except.error e) f = Except.error e; unfold Except.bind; exact rfl

theorem arith_eq (t : IT) (m : Mode) (s : String) (r : Int) (h1 : t.lo ≤ r) (h2 : r ≤ t.hi) :
    arith t m s r = .ok r := by
  unfold arith; rw [if_pos ⟨h1, h2⟩]; rfl

theorem arith_i32 (m : Mode) (s : String) (r : Int) (h1 : -2147483648 ≤ r) (h2 : r ≤ 2147483647) :
    arith .i32 m s r = .ok r := arith_eq _ _ _ _ h1 h2

theorem arith_i64 (m : Mode) (s : String) (r : Int) (h1 : -9223372036854775808 ≤ r)
    (h2 : r ≤ 9223372036854775807) : arith .i64 m s r = .ok r := arith_eq _ _ _ _ h1 h2

/-- the same at the head of a `do` block.  `ksimp` applies these before it enters the continuation (`↓`): under the binder of the
    continuation the later steps have a bound variable for argument, and every attempt to discharge their bounds there fails -/
theorem arith_i32_bind {β} (m : Mode) (s : String) (r : Int) (f : Int → M β) (h1 : -2147483648 ≤ r) (h2 : r ≤ 2147483647) :
    (arith .i32 m s r >>= f) = f r := by
  rw [arith_i32 m s r h1 h2, ok_bind]

theorem arith_i64_bind {β} (m : Mode) (s : String) (r : Int) (f : Int → M β) (h1 : -9223372036854775808 ≤ r)
    (h2 : r ≤ 9223372036854775807) : (arith .i64 m s r >>= f) = f r := by
  rw [arith_i64 m s r h1 h2, ok_bind]

theorem wrap32_id (x : Int) (h1 : -2147483648 ≤ x) (h2 : x ≤ 2147483647) : IT.i32.wrap x = x := by
  simp only [IT.wrap, IT.lo, IT.modulus]; omega

theorem wrap64_id (x : Int) (h1 : -9223372036854775808 ≤ x) (h2 : x ≤ 9223372036854775807) :
    IT.i64.wrap x = x := by
  simp only [IT.wrap, IT.lo, IT.modulus]; omega

theorem absI_eq (x : Int) : absI x = if x < 0 then -x else x := rfl

theorem absI_lt (x c : Int) : absI x < c ↔ (-c < x ∧ x < c) := by
  simp only [absI_eq]; split <;> omega

theorem absI_nonneg (x : Int) : 0 ≤ absI x := by simp only [absI_eq]; split <;> omega

theorem arith_abs32 (m : Mode) (s : String) (x : Int) (h1 : -2147483648 < x) (h2 : x ≤ 2147483647) :
    arith .i32 m s (absI x) = .ok (absI x) := by
  apply arith_i32 <;> simp only [absI_eq] <;> split <;> omega

theorem arith_abs64 (m : Mode) (s : String) (x : Int) (h1 : -9223372036854775808 < x)
    (h2 : x ≤ 9223372036854775807) : arith .i64 m s (absI x) = .ok (absI x) := by
  apply arith_i64 <;> simp only [absI_eq] <;> split <;> omega

theorem remEuclid_eq (s : String) (a b : Int) (h : b ≠ 0) : remEuclid s a b = .ok (a % b) := by
  unfold remEuclid; rw [if_neg h]; rfl

theorem dassertM_eq (m : Mode) (s : String) (c : M Bool) (h : c = .ok true) :
    dassertM m s c = .ok () := by
  cases m
  · show (c >>= fun b => if b then pure () else throw (.dassert s)) = .ok ()
    rw [h, ok_bind, if_pos rfl, pure_eq]
  · exact pure_eq ()

theorem dassertM_dec (m : Mode) (s : String) (p : Prop) [Decidable p] (h : p) :
    dassertM m s (Except.ok (decide p)) = .ok () := by
  apply dassertM_eq; simp [h]

theorem dassertM_true (m : Mode) (s : String) : dassertM m s (Except.ok true) = .ok () :=
  dassertM_eq _ _ _ rfl

theorem dassert_dec (m : Mode) (s : String) (c : Bool) (h : c = true) : dassert m s c = .ok () := by
  subst h; cases m <;> rfl

theorem toU_of_nonneg (t : IT) (x : Int) (h0 : 0 ≤ x) (h1 : x ≤ t.hi) : t.toU x = x.toNat := by
  unfold IT.toU; congr 1
  cases t <;> simp only [IT.hi, IT.modulus] at * <;> omega

theorem ofU_small (t : IT) (n : Nat) (h : (n : Int) ≤ t.hi) : t.ofU n = (n : Int) := by
  unfold IT.ofU IT.wrap
  cases t <;> simp only [IT.hi, IT.lo, IT.modulus] at * <;> omega

theorem band32_zero (b : Int) : band .i32 0 b = 0 := by
  simp [band, IT.toU, IT.ofU, IT.wrap, IT.lo, IT.modulus]

theorem band32_neg1 (b : Int) (h1 : -2147483648 ≤ b) (h2 : b ≤ 2147483647) : band .i32 (-1) b = b := by
  have e : IT.i32.toU (-1) = 2 ^ 32 - 1 := by simp [IT.toU, IT.modulus]
  simp only [band, e]
  rw [Nat.and_comm, Nat.and_two_pow_sub_one_eq_mod]
  simp only [IT.toU, IT.ofU, IT.wrap, IT.lo, IT.modulus]
  omega

/-- sign-mask select: `(x >> 31) & b` -/
theorem band32_signmask (x b : Int) (hx1 : -2147483648 ≤ x) (hx2 : x ≤ 2147483647)
    (h1 : -2147483648 ≤ b) (h2 : b ≤ 2147483647) :
    band .i32 (x / 2147483648) b = if x < 0 then b else 0 := by
  by_cases hx : x < 0
  · have : x / 2147483648 = -1 := by omega
    rw [this, band32_neg1 b h1 h2, if_pos hx]
  · have : x / 2147483648 = 0 := by omega
    rw [this, band32_zero, if_neg hx]

/-- sign-mask select in arithmetic form (linear for a literal `b`, so `omega` can use it) -/
theorem band32_signmask_mul (x b : Int) (hx1 : -2147483648 ≤ x) (hx2 : x ≤ 2147483647)
    (h1 : -2147483648 ≤ b) (h2 : b ≤ 2147483647) :
    band .i32 (x / 2147483648) b = -(x / 2147483648) * b := by
  rw [band32_signmask x b hx1 hx2 h1 h2]
  by_cases hx : x < 0
  · have : x / 2147483648 = -1 := by omega
    rw [this, if_pos hx]; omega
  · have : x / 2147483648 = 0 := by omega
    rw [this, if_neg hx]; omega

/-- The mask is a variable so that a literal one (`15`, `127`) is an instance as it stands:
    `band_low .u8 x 127 7 (by decide) (by decide) h0 h1 : band .u8 x 127 = x % (127 + 1)`. -/
theorem band_low (t : IT) (x c : Int) (k : Nat) (hc : c + 1 = ((2 ^ k : Nat) : Int)) (hk : c ≤ t.hi) (hx0 : 0 ≤ x) (hx : x ≤ t.hi) :
    band t x c = x % (c + 1) := by
  have hp : 1 ≤ 2 ^ k := Nat.one_le_two_pow
  obtain rfl : c = ((2 ^ k - 1 : Nat) : Int) := by omega
  unfold band
  rw [toU_of_nonneg t x hx0 hx, toU_of_nonneg t _ (by omega) hk, Int.toNat_natCast, Nat.and_two_pow_sub_one_eq_mod, hc,
    ofU_small, Int.natCast_emod, Int.toNat_of_nonneg hx0]
  have := Nat.mod_lt x.toNat (show 0 < 2 ^ k by omega)
  omega

theorem band32_15 (x : Int) (hx0 : 0 ≤ x) (hx : x ≤ 2147483647) : band .i32 x 15 = x % 16 :=
  band_low .i32 x 15 4 (by decide) (by decide) hx0 hx

theorem bxor32_zero (x : Int) (h1 : -2147483648 ≤ x) (h2 : x ≤ 2147483647) : bxor .i32 x 0 = x := by
  have e : IT.i32.toU 0 = 0 := by decide
  unfold bxor
  rw [e, Nat.xor_zero]
  simp only [IT.toU, IT.ofU, IT.wrap, IT.lo, IT.modulus]
  omega

theorem bxor32_self (x : Int) : bxor .i32 x x = 0 := by
  simp [bxor, IT.ofU, IT.wrap, IT.lo, IT.modulus]

theorem bor_comm (t : IT) (x y : Int) : bor t x y = bor t y x := by
  unfold bor; rw [Nat.or_comm]

theorem bor_disjoint (t : IT) (a b k : Nat) (hb : b < 2 ^ k) (hs : ((a * 2 ^ k + b : Nat) : Int) ≤ t.hi) :
    bor t ((a * 2 ^ k : Nat) : Int) (b : Int) = ((a * 2 ^ k + b : Nat) : Int) := by
  unfold bor
  rw [toU_of_nonneg t _ (by omega) (by omega), toU_of_nonneg t _ (by omega) (by omega), Int.toNat_natCast, Int.toNat_natCast,
    ← Nat.shiftLeft_eq, ← Nat.shiftLeft_add_eq_or_of_lt hb, Nat.shiftLeft_eq]
  exact ofU_small t _ hs

theorem bor_add (t : IT) (x y p : Int) (k : Nat) (hp : p = ((2 ^ k : Nat) : Int)) (hx0 : 0 ≤ x) (hxk : x % p = 0) (hy0 : 0 ≤ y)
    (hy : y < p) (hs : x + y ≤ t.hi) : bor t x y = x + y := by
  subst hp
  have e1 : (((x / ((2 ^ k : Nat) : Int)).toNat * 2 ^ k : Nat) : Int) = x := by
    have := Int.mul_ediv_add_emod x ((2 ^ k : Nat) : Int)
    have := Int.ediv_nonneg hx0 (Int.natCast_nonneg (2 ^ k))
    rw [Int.natCast_mul, Int.toNat_of_nonneg this, Int.mul_comm]; omega
  have e2 : ((y.toNat : Nat) : Int) = y := Int.toNat_of_nonneg hy0
  have h := bor_disjoint t (x / ((2 ^ k : Nat) : Int)).toNat y.toNat k (by omega) (by rw [Int.natCast_add, e1, e2]; exact hs)
  rwa [Int.natCast_add, e1, e2] at h

theorem shl_nat (t : IT) (m : Mode) (site : String) (x bi : Nat) (hbi : bi < t.bits) (hs : ((x * 2 ^ bi : Nat) : Int) ≤ t.hi) :
    shl t m site (x : Int) (bi : Int) = .ok ((x * 2 ^ bi : Nat) : Int) := by
  unfold shl
  rw [if_pos ⟨Int.natCast_nonneg _, Int.ofNat_lt.mpr hbi⟩, Int.toNat_natCast, pure_eq,
    show (x : Int) * 2 ^ bi = ((x * 2 ^ bi : Nat) : Int) by simp]
  congr 1
  have h0 : (0 : Int) ≤ ((x * 2 ^ bi : Nat) : Int) := Int.natCast_nonneg _
  unfold IT.wrap
  cases t <;> simp only [IT.hi, IT.lo, IT.modulus] at * <;> omega

end Fips204

/-- unfold a generated kernel completely: every `arith` is discharged by `omega` from the
    hypotheses in scope, every `debug_assert` likewise (DESIGN 3.1, proof pattern) -/
syntax "ksimp" (" [" Lean.Parser.Tactic.simpLemma,* "]")? : tactic
macro_rules
  | `(tactic| ksimp) => `(tactic| ksimp [Fips204.pure_eq])
  | `(tactic| ksimp [$ls,*]) => `(tactic| simp (disch := omega) only [↓Fips204.arith_i32_bind, ↓Fips204.arith_i64_bind, ↓Fips204.ok_bind, Fips204.arith_i32, Fips204.arith_i64, Fips204.arith_abs32, Fips204.arith_abs64,
      Fips204.pure_eq, Fips204.ok_bind, Fips204.error_bind, Fips204.dassertM_dec, Fips204.dassertM_true, Fips204.absI_lt, Fips204.band32_signmask_mul, Fips204.remEuclid_eq, $ls,*])
