import Fips204.Lemmas.KeygenSpec
import Fips204.Lemmas.SpecVerify
/-! Key generation followed by serialisation is FIPS 204 Algorithm 6 as the standard writes it (`Spec/MlDsa.lean`). -/
namespace Fips204.Impl
open Fips204 Fips204.Gen Fips204.K

theorem commitRow_is_spec (row : List Poly) (y : List Poly) :
    invC (rowS row y zeroPoly) = Spec.invNtt (Spec.rowTimes row (y.map Spec.ntt)) := by
  unfold Spec.rowTimes
  exact invC_is_spec (rowS_is_spec row y zeroPoly (List.replicate 256 0) (CongL.refl _))

theorem tRowS_is_spec (row : List Poly) (s1 : List Poly) (s2r : Poly) :
    tRowS row s1 s2r = Spec.addQ (Spec.invNtt (Spec.rowTimes row (s1.map Spec.ntt))) s2r := by
  unfold tRowS Spec.addQ
  rw [← invC, commitRow_is_spec]

theorem keygenSpec_is_algorithm_6 (m : Mode) (O : Oracles) (hO : OracleOk O) (p : ParamSet) (he : p.eta = 2 ∨ p.eta = 4)
    (hpcfg : p.pkLen = 32 + 32 * p.k * blqd) (bl : Nat) (hbl : bitLen m (2 * p.eta) = .ok bl) (hbs : Spec.bitlen (2 * p.eta) = bl)
    (hcfg : p.skLen = 128 + 32 * ((p.k + p.l) * bl + D.toNat * p.k)) (xi : List Nat) :
    Agrees (keygenSpec m O p xi)
      (Spec.keyGenInternal (specParams p) O.h O.g (1680 * O.fuelScale) (1088 * O.fuelScale) xi) := by
  unfold keygenSpec Spec.keyGenInternal specParams
  simp only [hbs]
  obtain ⟨hrho, hrhoP, hkey⟩ := seed_split O hO (xi ++ [p.k % 256, p.l % 256])
  rw [expandS_is_algorithm_33 m O hO p he _ hrhoP, expandA_is_algorithm_32 m O hO p _ hrho]
  cases hes : Spec.expandS _ _ _ _ _ with
  | none => cases Spec.expandA _ _ _ _ <;> exact ⟨_, rfl⟩
  | some ss =>
    cases hea : Spec.expandA _ _ _ _ with
    | none => exact ⟨_, rfl⟩
    | some aHat =>
      obtain ⟨⟨sh1, r1⟩, ⟨sh2, r2⟩⟩ := spec_expandS_in O hO p he _ ss hes
      have hA := spec_expandA_in _ p.k p.l _ aHat hea
      obtain ⟨s1, s2⟩ := ss
      simp only [] at sh1 sh2 r1 r2
      simp only [ofSpec, ok_bind]
      have hf : (fun (row : List Poly) (s2r : Poly) => tRowS row s1 s2r) =
          (fun row s2r => Spec.addQ (Spec.invNtt (Spec.rowTimes row (s1.map Spec.ntt))) s2r) := by
        funext row s2r; exact tRowS_is_spec row s1 s2r
      have hT := tRowS_in (MatIn.sh hA) sh1.2 sh2
      rw [hf] at hT ⊢
      rw [pkEncode_is_algorithm_22 m p _ _ hrho hpcfg hT.1.p2r1.1 hT.1.p2r1.2, ok_bind,
        skEncode_is_algorithm_24 m p he bl hbl hcfg
          { rho := (O.h (xi ++ [p.k % 256, p.l % 256]) 128).take 32, key := ((O.h (xi ++ [p.k % 256, p.l % 256]) 128).drop 96).take 32,
            tr := O.h _ 64, s1 := s1, s2 := s2, t0 := _ }
          hrho hkey (hO.hlen _ _) ⟨sh1, r1⟩ ⟨sh2, r2⟩ hT.1.p2r0.top, ok_bind, pure_eq]
      rfl


/-- **key generation followed by serialisation is FIPS 204 Algorithm 6 as the standard writes it**: for each of the three parameter sets,
    every oracle and every seed, in both build modes, the byte strings are exactly `Spec.keyGenInternal`'s `(pk, sk)`
    (Algorithms 32, 30, 33, 31, 41, 42, 35, 22, 24, 16, 17 as transcribed in `Spec/*`) -/
theorem keygen_is_algorithm_6_as_written (m : Mode) (O : Oracles) (hO : OracleOk O) (p : ParamSet) (hp : p ∈ [ml_dsa_44, ml_dsa_65, ml_dsa_87])
    (xi : List Nat) :
    Agrees (keygenFromSeed m O p xi >>= fun kp => pkIntoBytes m p kp.1 >>= fun pkb => skIntoBytes m p kp.2 >>= fun skb => pure (pkb, skb))
      (Spec.keyGenInternal (specParams p) O.h O.g (1680 * O.fuelScale) (1088 * O.fuelScale) xi) := by
  obtain ⟨_, bl, c⟩ := paramCfg_of_mem m p hp
  rw [show keygenFromSeed m O p xi = keyGenInternal m O false p xi from rfl,
    keygen_bytes_eq_spec m O hO p c.eta c.ver.l7 c.pkLen xi]
  exact keygenSpec_is_algorithm_6 m O hO p c.eta c.pkLen bl c.etaBits c.etaBitlen c.skLen xi

theorem keygen_of_algorithm_6 (m : Mode) (O : Oracles) (hO : OracleOk O) (p : ParamSet) (hp : p ∈ [ml_dsa_44, ml_dsa_65, ml_dsa_87])
    (xi pk sk : List Nat)
    (h : Spec.keyGenInternal (specParams p) O.h O.g (1680 * O.fuelScale) (1088 * O.fuelScale) xi = some (pk, sk)) :
    ∃ kp, keygenFromSeed m O p xi = .ok kp ∧ pkIntoBytes m p kp.1 = .ok pk ∧ skIntoBytes m p kp.2 = .ok sk := by
  have h6 := keygen_is_algorithm_6_as_written m O hO p hp xi
  rw [h] at h6
  have h6' : (keygenFromSeed m O p xi >>= fun kp => pkIntoBytes m p kp.1 >>= fun pkb =>
      skIntoBytes m p kp.2 >>= fun skb => pure (pkb, skb)) = .ok (pk, sk) := h6
  simp only [bind_eq_ok, pure_eq_ok, Prod.mk.injEq] at h6'
  obtain ⟨kp, hkp, pkb, hpk, skb, hsk, rfl, rfl⟩ := h6'
  exact ⟨kp, hkp, hpk, hsk⟩

end Fips204.Impl
