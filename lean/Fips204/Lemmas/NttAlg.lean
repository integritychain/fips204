import Fips204.Lemmas.NttBounds
/-! Algebra of the two exact-integer specifications `nttS`, `invS` (`Lemmas/NttBounds`): the table pairs the forward multiplier
    of a block with the inverse of the block the inverse walk visits in its place, the specifications preserve length and congruence, and
    each undoes the other up to the factor `2^d`. -/
namespace Fips204.Impl
open Fips204 Fips204.Gen Fips204.K

/-- bit reversal of the two children of tree node `k` (the 128 inner nodes, by evaluation): the exponents halve, so the table is a
    binary tree of square roots -/
theorem bitrev8_children : ∀ k < 128, 2 * bitrev8 (2 * k) = bitrev8 k ∧ 2 * bitrev8 (2 * k + 1) = bitrev8 k + 256 := by decide +kernel

theorem zeta_256 : cg (1753 ^ 256) (-1) := by unfold cg; decide

/-- block `k` of forward layer `j` and the block `kk` that the inverse walk visits in its place (mirror images inside the layer) have
    exponents adding up to 256 -/
theorem pair_brv : ∀ (j k kk : Nat), j < 8 → 2 ^ j ≤ k → k < 2 ^ (j + 1) → k + kk + 1 = 3 * 2 ^ j → bitrev8 k + bitrev8 kk = 256 := by
  intro j
  induction j with
  | zero =>
    intro k kk _ h1 h2 h3
    have e1 : k = 1 := by omega
    have e2 : kk = 1 := by omega
    subst e1 e2
    decide
  | succ j ih =>
    intro k kk hj h1 h2 h3
    have hb : 2 ^ j ≤ 2 ^ 6 := Nat.pow_le_pow_right (by omega) (by omega)
    -- the parents `k / 2`, `kk / 2` are mirror images in layer `j`; `k + kk` is odd, so exactly one of the two is a left child
    have i := ih (k / 2) (kk / 2) (by omega) (by omega) (by omega) (by omega)
    have a := bitrev8_children (k / 2) (by omega)
    have b := bitrev8_children (kk / 2) (by omega)
    rcases Nat.mod_two_eq_zero_or_one k with e | e
    · have e1 : k = 2 * (k / 2) := by omega
      have e2 : kk = 2 * (kk / 2) + 1 := by omega
      rw [e1, e2]
      omega
    · have e1 : k = 2 * (k / 2) + 1 := by omega
      have e2 : kk = 2 * (kk / 2) := by omega
      rw [e1, e2]
      omega

/-- the negated Montgomery entry the inverse walk reads at `kk` is the inverse of the forward multiplier at `k`: `ζ^256 = -1` -/
theorem pair_cg (j k kk : Nat) (hj : j < 8) (h1 : 2 ^ j ≤ k) (h2 : k < 2 ^ (j + 1)) (h3 : k + kk + 1 = 3 * 2 ^ j) :
    cg (zv k * RINV * (-zv kk * RINV)) 1 := by
  have hb : 2 ^ (j + 1) ≤ 2 ^ 8 := Nat.pow_le_pow_right (by omega) (by omega)
  have c : cg (cf k * cf kk) (1753 ^ 256) := by
    rw [← pair_brv j k kk hj h1 h2 h3, Int.pow_add]
    exact ((cf_cg k (by omega)).mul_right _).trans ((cf_cg kk (by omega)).mul_left _)
  have := (c.trans zeta_256).mul_left (-1)
  exact (cg.of_eq (by unfold cf; grind)).trans this

theorem nttS_append (d k : Nat) (lo hi : List Int) (h : lo.length = hi.length) :
    nttS (d + 1) k (lo ++ hi) =
      nttS d (2 * k) (List.zipWith (fun a t => a + t) lo (hi.map (fun x => zv k * x * RINV))) ++
      nttS d (2 * k + 1) (List.zipWith (fun a t => a - t) lo (hi.map (fun x => zv k * x * RINV))) := by
  have e : (lo ++ hi).length / 2 = lo.length := by rw [List.length_append]; omega
  rw [nttS]
  simp only [e, List.take_left' rfl, List.drop_left' rfl]

theorem invS_append (d k : Nat) (x y : List Int) (h : x.length = y.length) :
    invS (d + 1) k (x ++ y) =
      List.zipWith (fun t u => t + u) (invS d (2 * k + 1) x) (invS d (2 * k) y) ++
      List.zipWith (fun t u => -zv k * (t - u) * RINV) (invS d (2 * k + 1) x) (invS d (2 * k) y) := by
  have e : (x ++ y).length / 2 = x.length := by rw [List.length_append]; omega
  rw [invS]
  simp only [e, List.take_left' rfl, List.drop_left' rfl]

theorem halves {α} (w : List α) (n : Nat) (h : w.length = 2 * n) : ∃ lo hi, w = lo ++ hi ∧ lo.length = n ∧ hi.length = n :=
  ⟨w.take n, w.drop n, (List.take_append_drop n w).symm, by rw [List.length_take]; omega, by rw [List.length_drop]; omega⟩

theorem layer_length (op : Int → Int → Int) (f : Int → Int) {lo hi : List Int} {n : Nat} (hlo : lo.length = n) (hhi : hi.length = n) :
    (List.zipWith op lo (hi.map f)).length = n := by
  rw [List.length_zipWith, List.length_map, hlo, hhi, Nat.min_self]

theorem nttS_length : ∀ (d k : Nat) (w : List Int), w.length = 2 ^ d → (nttS d k w).length = 2 ^ d := by
  intro d
  induction d with
  | zero => intro k w h; exact h
  | succ d ih =>
    intro k w h
    obtain ⟨lo, hi, rfl, hlo, hhi⟩ := halves w (2 ^ d) (by rw [h, Nat.pow_succ'])
    rw [nttS_append d k lo hi (hlo.trans hhi.symm), List.length_append, ih _ _ (layer_length _ _ hlo hhi),
      ih _ _ (layer_length _ _ hlo hhi), Nat.pow_succ']
    omega

theorem invS_length : ∀ (d k : Nat) (w : List Int), w.length = 2 ^ d → (invS d k w).length = 2 ^ d := by
  intro d
  induction d with
  | zero => intro k w h; exact h
  | succ d ih =>
    intro k w h
    obtain ⟨x, y, rfl, hx, hy⟩ := halves w (2 ^ d) (by rw [h, Nat.pow_succ'])
    rw [invS_append d k x y (hx.trans hy.symm), List.length_append, List.length_zipWith, List.length_zipWith, ih _ x hx, ih _ y hy,
      Nat.min_self, Nat.pow_succ']
    omega

theorem invS_cong : ∀ (d k : Nat) (u v : List Int), CongL u v → CongL (invS d k u) (invS d k v) := by
  intro d
  induction d with
  | zero => intro k u v h; exact h
  | succ d ih =>
    intro k u v h
    unfold invS
    simp only [h.1]
    have c1 := ih (2 * k + 1) _ _ (h.take (v.length / 2))
    have c2 := ih (2 * k) _ _ (h.drop (v.length / 2))
    exact (c1.zipWith c2 _ _ (fun a b a' b' h1 h2 => h1.add h2)).append
      (c1.zipWith c2 _ _ (fun a b a' b' h1 h2 => ((h1.sub h2).mul_left (-zv k)).mul_right RINV))

theorem nttS_cong : ∀ (d k : Nat) (u v : List Int), CongL u v → CongL (nttS d k u) (nttS d k v) := by
  intro d
  induction d with
  | zero => intro k u v h; exact h
  | succ d ih =>
    intro k u v h
    unfold nttS
    simp only [h.1]
    have ct := (h.drop (v.length / 2)).map (fun x => zv k * x * RINV) (fun x => zv k * x * RINV)
      (fun a b hab => (hab.mul_left (zv k)).mul_right RINV)
    exact (ih (2 * k) _ _ ((h.take (v.length / 2)).zipWith ct _ _ (fun a b a' b' h1 h2 => h1.add h2))).append
      (ih (2 * k + 1) _ _ ((h.take (v.length / 2)).zipWith ct _ _ (fun a b a' b' h1 h2 => h1.sub h2)))

theorem nttS_scale (c : Int) : ∀ (d k : Nat) (w : List Int), CongL (nttS d k (w.map (fun x => c * x))) ((nttS d k w).map (fun x => c * x)) := by
  intro d
  induction d with
  | zero => intro k w; exact CongL.refl _
  | succ d ih =>
    intro k w
    unfold nttS
    simp only [List.length_map, List.map_append]
    -- `c` goes through one layer, for `+` and for `-`
    have hAB : ∀ op : Int → Int → Int, (∀ a b, op (c * a) (zv k * (c * b) * RINV) = c * op a (zv k * b * RINV)) →
        CongL (List.zipWith op ((w.map (fun x => c * x)).take (w.length / 2))
          (((w.map (fun x => c * x)).drop (w.length / 2)).map (fun x => zv k * x * RINV)))
          ((List.zipWith op (w.take (w.length / 2)) ((w.drop (w.length / 2)).map (fun x => zv k * x * RINV))).map (fun x => c * x)) :=
      fun op hop => ⟨by simp, fun i h1 h2 => by
        simp only [List.getElem_zipWith, List.getElem_map, List.getElem_take, List.getElem_drop]
        exact cg.of_eq (hop _ _)⟩
    exact ((nttS_cong d (2 * k) _ _ (hAB (fun a t => a + t) (fun a b => by grind))).trans (ih (2 * k) _)).append
      ((nttS_cong d (2 * k + 1) _ _ (hAB (fun a t => a - t) (fun a b => by grind))).trans (ih (2 * k + 1) _))

/-- one inverse layer applied to `P` times one forward layer returns `2 P` times the block, when the two multipliers are inverse -/
theorem layer_undo (c c' P : Int) (hc : cg (c * RINV * (-c' * RINV)) 1) : ∀ (lo hi : List Int), lo.length = hi.length →
    CongL (List.zipWith (fun t u => t + u) ((List.zipWith (fun a t => a + t) lo (hi.map (fun x => c * x * RINV))).map (fun x => P * x))
          ((List.zipWith (fun a t => a - t) lo (hi.map (fun x => c * x * RINV))).map (fun x => P * x))) (lo.map (fun x => 2 * P * x)) ∧
    CongL (List.zipWith (fun t u => -c' * (t - u) * RINV) ((List.zipWith (fun a t => a + t) lo (hi.map (fun x => c * x * RINV))).map (fun x => P * x))
          ((List.zipWith (fun a t => a - t) lo (hi.map (fun x => c * x * RINV))).map (fun x => P * x))) (hi.map (fun x => 2 * P * x))
  | [], [], _ => ⟨CongL.nil, CongL.nil⟩
  | a :: lo, b :: hi, h => by
    obtain ⟨h1, h2⟩ := layer_undo c c' P hc lo hi (by simpa using h)
    refine ⟨CongL.cons (cg.of_eq (by grind)) h1, CongL.cons ?_ h2⟩
    -- `-c' (P (a + c b R) - P (a - c b R)) R = (c R) (-c' R) (2 P b)`
    have := hc.mul_right (2 * P * b)
    rw [Int.one_mul] at this
    exact (cg.of_eq (by grind)).trans this

/-- **inverse butterflies after forward butterflies multiply by `2^d`** (modulo q), block by block: `j` is the layer of block `k`
    (`2^j ≤ k < 2^(j+1)`) and `kk` its mirror image in that layer; a whole polynomial is `8 0 1 1` -/
theorem invS_nttS : ∀ (d j k kk : Nat) (w : List Int), w.length = 2 ^ d → 2 ^ j ≤ k → k < 2 ^ (j + 1) → k + kk + 1 = 3 * 2 ^ j →
    j + d ≤ 8 → CongL (invS d kk (nttS d k w)) (w.map (fun x => 2 ^ d * x)) := by
  intro d
  induction d with
  | zero =>
    intro j k kk w _ _ _ _ _
    simpa [invS, nttS] using CongL.refl w
  | succ d ih =>
    intro j k kk w hw h1 h2 h3 hjd
    obtain ⟨lo, hi, rfl, hlo, hhi⟩ := halves w (2 ^ d) (by rw [hw, Nat.pow_succ'])
    have hA := layer_length (fun a t => a + t) (fun x => zv k * x * RINV) hlo hhi
    have hB := layer_length (fun a t => a - t) (fun x => zv k * x * RINV) hlo hhi
    -- the children of `k` are undone by the mirrored children of `kk`
    have cX := ih (j + 1) (2 * k) (2 * kk + 1) _ hA (by omega) (by omega) (by omega) (by omega)
    have cY := ih (j + 1) (2 * k + 1) (2 * kk) _ hB (by omega) (by omega) (by omega) (by omega)
    obtain ⟨u1, u2⟩ := layer_undo (zv k) (zv kk) (2 ^ d) (pair_cg j k kk (by omega) h1 h2 h3) lo hi (hlo.trans hhi.symm)
    rw [nttS_append d k lo hi (hlo.trans hhi.symm), invS_append d kk _ _ ((nttS_length d _ _ hA).trans (nttS_length d _ _ hB).symm),
      List.map_append, Int.pow_succ, Int.mul_comm _ 2]
    exact ((cX.zipWith cY _ _ (fun _ _ _ _ p q => p.add q)).trans u1).append
      ((cX.zipWith cY _ _ (fun _ _ _ _ p q => ((p.sub q).mul_left _).mul_right _)).trans u2)

/-- one forward layer applied to one inverse layer doubles the two halves, when the two multipliers are inverse -/
theorem layer_redo (c c' : Int) (hc : cg (c * RINV * (-c' * RINV)) 1) : ∀ (l h : List Int), l.length = h.length →
    CongL (List.zipWith (fun a t => a + t) (List.zipWith (fun t u => t + u) l h)
          ((List.zipWith (fun t u => -c' * (t - u) * RINV) l h).map (fun x => c * x * RINV))) (l.map (fun x => 2 * x)) ∧
    CongL (List.zipWith (fun a t => a - t) (List.zipWith (fun t u => t + u) l h)
          ((List.zipWith (fun t u => -c' * (t - u) * RINV) l h).map (fun x => c * x * RINV))) (h.map (fun x => 2 * x))
  | [], [], _ => ⟨CongL.nil, CongL.nil⟩
  | a :: l, b :: h, e => by
    obtain ⟨h1, h2⟩ := layer_redo c c' hc l h (by simpa using e)
    -- `c (-c' (a - b) R) R = (c R) (-c' R) (a - b)`, which is `a - b` modulo q
    have := hc.mul_right (a - b)
    rw [Int.one_mul] at this
    exact ⟨CongL.cons ((cg.of_eq (by grind)).trans (((cg.refl (a + b)).add this).trans (cg.of_eq (by grind)))) h1,
      CongL.cons ((cg.of_eq (by grind)).trans (((cg.refl (a + b)).sub this).trans (cg.of_eq (by grind)))) h2⟩

/-- **forward butterflies after inverse butterflies multiply by `2^d`** (modulo q): the two transforms are mutually
    inverse up to the factor `2^d` -/
theorem nttS_invS : ∀ (d j k kk : Nat) (w : List Int), w.length = 2 ^ d → 2 ^ j ≤ k → k < 2 ^ (j + 1) → k + kk + 1 = 3 * 2 ^ j →
    j + d ≤ 8 → CongL (nttS d k (invS d kk w)) (w.map (fun x => 2 ^ d * x)) := by
  intro d
  induction d with
  | zero =>
    intro j k kk w _ _ _ _ _
    simpa [invS, nttS] using CongL.refl w
  | succ d ih =>
    intro j k kk w hw h1 h2 h3 hjd
    obtain ⟨x, y, rfl, hx, hy⟩ := halves w (2 ^ d) (by rw [hw, Nat.pow_succ'])
    have lL := invS_length d (2 * kk + 1) x hx
    have lH := invS_length d (2 * kk) y hy
    obtain ⟨u1, u2⟩ := layer_redo (zv k) (zv kk) (pair_cg j k kk (by omega) h1 h2 h3) _ _ (lL.trans lH.symm)
    have iL := ih (j + 1) (2 * k) (2 * kk + 1) x hx (by omega) (by omega) (by omega) (by omega)
    have iH := ih (j + 1) (2 * k + 1) (2 * kk) y hy (by omega) (by omega) (by omega) (by omega)
    rw [invS_append d kk x y (hx.trans hy.symm), nttS_append d k _ _ (by rw [List.length_zipWith, List.length_zipWith]), List.map_append]
    have fin : ∀ v : List Int, CongL ((v.map (fun x => 2 ^ d * x)).map (fun x => 2 * x)) (v.map (fun x => 2 ^ (d + 1) * x)) := fun v => by
      rw [List.map_map]
      exact (CongL.refl v).map _ _ (fun a b h => (cg.of_eq (by simp only [Function.comp, Int.pow_succ]; rw [← Int.mul_assoc, Int.mul_comm 2])).trans (h.mul_left _))
    -- the doubled halves go through the children by linearity of `nttS`
    exact ((((nttS_cong d _ _ _ u1).trans (nttS_scale 2 d _ _)).trans (iL.map _ _ (fun _ _ h => h.mul_left 2))).trans (fin x)).append
      ((((nttS_cong d _ _ _ u2).trans (nttS_scale 2 d _ _)).trans (iH.map _ _ (fun _ _ h => h.mul_left 2))).trans (fin y))

theorem invC_length (v : List Int) (hv : v.length = 256) : (invC v).length = 256 := by
  unfold invC canon
  rw [List.length_map, List.length_map, invS_length 8 1 v (by rw [hv])]

theorem invC_nttS (w : List Int) (hw : w.length = 256) : CongL (invC (nttS 8 1 w)) w :=
  (canon_cong _).trans (((invS_nttS 8 0 1 1 w (by rw [hw]) (by decide) (by decide) (by decide) (by decide)).map _ _
    (fun _ _ h => h.mul_left FS)).trans (map_fs_256 w))

theorem nttS_invC (v : List Int) (hv : v.length = 256) : CongL (nttS 8 1 (invC v)) v := by
  have h1 := nttS_invS 8 0 1 1 v (by rw [hv]) (by decide) (by decide) (by decide) (by decide)
  refine (nttS_cong 8 1 _ _ (canon_cong _)).trans ((nttS_scale FS 8 1 _).trans ?_)
  exact (h1.map (fun x => FS * x) (fun x => FS * x) (fun a b h => h.mul_left FS)).trans (map_fs_256 v)

theorem invC_cong (u v : List Int) (h : CongL u v) : CongL (invC u) (invC v) :=
  (canon_cong _).trans (((invS_cong 8 1 u v h).map _ _ (fun a b h => h.mul_left FS)).trans (canon_cong _).symm)

theorem invC_eq_of_cong {u v : List Int} (h : CongL u v) : invC u = invC v :=
  can_eq_of_cong _ _ (invC_cong u v h) (canon_can _) (canon_can _)

theorem invC_nttS_eq (w : List Int) (hw : w.length = 256) : invC (nttS 8 1 w) = canon w :=
  can_eq_of_cong _ _ ((invC_nttS w hw).trans (canon_cong w).symm) (canon_can _) (canon_can _)

end Fips204.Impl
