import Fips204.Lemmas.VerifyCore
import Fips204.Spec.Ntt
/-! The exact-integer transforms used by the whole-function theorems (`nttS`, `invS`, `wApproxS`: the crate's
    Montgomery zeta table times `2^-32`) are FIPS 204 Algorithms 41 / 42 with the standard's zetas (`Spec/Ntt.lean`), modulo q;
    and the verifier's `w'_Approx` is line 9 of Algorithm 8 computed with them. -/
namespace Fips204.Impl
open Fips204 Fips204.Gen

/-- the crate's table entry times `2^-32` is the standard's `ζ^{BitRev8(k)} mod q` -/
theorem zeta_cg (k : Nat) (h2 : k < 256) : cg (zv k * RINV) (Spec.zeta k) :=
  (cf_cg k h2).mod_right

theorem nttS_is_spec : ∀ (d k : Nat) (u v : List Int), CongL u v → (k + 1) * 2 ^ d ≤ 512 →
    CongL (nttS d k u) (Spec.nttRec d k v) := by
  intro d
  induction d with
  | zero => intro k u v h _; exact h
  | succ d ih =>
    intro k u v h hk2
    obtain ⟨hc0, hc1, hk⟩ := blk_children hk2
    have hz := zeta_cg k hk
    unfold nttS Spec.nttRec
    simp only []
    rw [h.1]
    have hts : CongL ((u.drop (v.length / 2)).map (fun x => zv k * x * RINV)) ((v.drop (v.length / 2)).map (fun x => Spec.zeta k * x % Q)) :=
      (h.drop _).map _ _ (fun a b hab => by
        have e : zv k * a * RINV = (zv k * RINV) * a := Int.mul_right_comm ..
        rw [e]
        exact (cg.mul hz hab).mod_right)
    refine CongL.append ?_ ?_
    · exact ih (2 * k) _ _ ((h.take _).zipWith hts _ _ (fun a b a' b' h1 h2 => (cg.add h1 h2).mod_right)) hc0
    · exact ih (2 * k + 1) _ _ ((h.take _).zipWith hts _ _ (fun a b a' b' h1 h2 => (cg.sub h1 h2).mod_right)) hc1

theorem invS_is_spec : ∀ (d k : Nat) (u v : List Int), CongL u v → (k + 1) * 2 ^ d ≤ 512 →
    CongL (invS d k u) (Spec.invRec d k v) := by
  intro d
  induction d with
  | zero => intro k u v h _; exact h
  | succ d ih =>
    intro k u v h hk2
    obtain ⟨hc0, hc1, hk⟩ := blk_children hk2
    have hz := zeta_cg k hk
    unfold invS Spec.invRec
    simp only []
    rw [h.1]
    have hlo := ih (2 * k + 1) _ _ (h.take (v.length / 2)) hc1
    have hhi := ih (2 * k) _ _ (h.drop (v.length / 2)) hc0
    refine CongL.append ?_ ?_
    · exact hlo.zipWith hhi _ _ (fun a b a' b' h1 h2 => (cg.add h1 h2).mod_right)
    · exact hlo.zipWith hhi _ _ (fun a b a' b' h1 h2 => by
        have e : -zv k * (a - a') * RINV = -(zv k * RINV) * (a - a') := by rw [Int.mul_right_comm, Int.neg_mul]
        rw [e]
        have hneg : cg (-(zv k * RINV)) (-(Spec.zeta k)) := by
          have := cg.mul_left (-1) hz
          simpa using this
        exact (cg.mul hneg (cg.sub h1 h2)).mod_right)

theorem FS_cg : cg FS 8347681 := by unfold cg FS; decide

theorem spec_invNtt_can (w : List Int) : Res (Spec.invNtt w) := by
  intro x hx
  obtain ⟨y, _, rfl⟩ := List.mem_map.mp hx
  exact ⟨Int.emod_nonneg _ (by decide), Int.le_of_lt_add_one (Int.emod_lt_of_pos _ (by decide))⟩

/-- `wRowS`, `tRowS` and `commitS` spell out the body of `invC`: there this applies by `refine` / `exact`, or after `rw [← invC]` -/
theorem invC_is_spec {u v : List Int} (h : CongL u v) : invC u = Spec.invNtt v :=
  canon_eq_of_cong _ _ (CongL.map (invS_is_spec 8 1 _ _ h (by decide)) _ _ (fun _ _ hab => (cg.mul FS_cg hab).mod_right))
    (spec_invNtt_can _)

theorem rowS_is_spec : ∀ (row z : List Poly) (P P' : List Int), CongL P P' →
    CongL (rowS row z P) ((List.zipWith Spec.mulQ row (z.map Spec.ntt)).foldl Spec.addQ P') := by
  intro row
  induction row with
  | nil => intro z P P' h; cases z <;> exact h
  | cons a as ih =>
    intro z P P' h
    cases z with
    | nil => exact h
    | cons y ys =>
      simp only [rowS, List.map_cons, List.zipWith_cons_cons, List.foldl_cons]
      refine ih ys _ _ ?_
      unfold Spec.addQ Spec.mulQ
      refine h.zipWith ?_ _ _ (fun p q p' q' h1 h2 => (cg.add h1 h2).mod_right)
      exact (CongL.refl a).zipWith (nttS_is_spec 8 1 y y (CongL.refl y) (by decide)) _ _
        (fun p q p' q' h1 h2 => (cg.mul h1 h2).mod_right)

theorem wRowS_is_spec (row z : List Poly) (c t : Poly) :
    wRowS row z c t =
      Spec.invNtt (Spec.subQ (Spec.rowTimes row (z.map Spec.ntt)) (Spec.mulQ (Spec.ntt c) (Spec.ntt (t.map (fun x => x * 2 ^ 13 % Q))))) := by
  unfold wRowS
  refine invC_is_spec ?_
  unfold Spec.subQ
  refine CongL.zipWith ?_ ?_ _ _ (fun p q p' q' h1 h2 => (cg.sub h1 h2).mod_right)
  · unfold Spec.rowTimes
    exact rowS_is_spec row z zeroPoly (List.replicate 256 0) (CongL.refl _)
  · unfold Spec.mulQ
    refine CongL.zipWith (nttS_is_spec 8 1 c c (CongL.refl c) (by decide)) ?_ _ _
      (fun p q p' q' h1 h2 => (cg.mul h1 h2).mod_right)
    refine nttS_is_spec 8 1 _ _ ?_ (by decide)
    refine (CongL.refl t).map _ _ (fun a b hab => ?_)
    have e : (2 : Int) ^ 13 = 8192 := by decide
    rw [e, Int.mul_comm b 8192]
    exact (cg.mul_left 8192 hab).mod_right

theorem wApproxS_is_spec (aHat : List (List Poly)) (z : List Poly) (c : Poly) (t1 : List Poly) :
    wApproxS aHat z c t1 = Spec.wApprox aHat z c t1 := by
  have hf : (fun (row : List Poly) (t : Poly) => wRowS row z c t) =
      (fun row t => Spec.invNtt (Spec.subQ (Spec.rowTimes row (z.map Spec.ntt)) (Spec.mulQ (Spec.ntt c) (Spec.ntt (t.map (fun x => x * 2 ^ 13 % Q)))))) := by
    funext row t
    exact wRowS_is_spec row z c t
  unfold wApproxS Spec.wApprox
  rw [hf]

end Fips204.Impl
