import Fips204.Gen.Kernels
import Fips204.Lemmas.Arith
/-!
  Equational lemmas about the *generated* scalar kernels (`Fips204.Gen.Kernels`, regenerated from
  the Rust source on every run).  Each says: on the documented input range the kernel returns
  `.ok v` in **both** build modes, for an explicit exact value `v`.
-/
namespace Fips204.K
open Fips204 Fips204.Gen

def pr32 (a : Int) : Int := a - (a + 4194304) / 8388608 * 8380417

theorem partial_reduce32_eq (m : Mode) (a : Int) (h1 : -2143289344 < a) (h2 : a < 2143289344) :
    partial_reduce32 m a = .ok (pr32 a) := by
  unfold partial_reduce32 pr32
  simp only [Q] at *
  ksimp

theorem pr32_spec (a : Int) (h1 : -2143289344 < a) (h2 : a < 2143289344) :
    (pr32 a - a) % 8380417 = 0 ∧ -8380417 < pr32 a ∧ pr32 a < 8380417 := by
  unfold pr32; omega

theorem pr32_mod (a : Int) (h1 : -2143289344 < a) (h2 : a < 2143289344) : pr32 a % Q = a % Q := by
  have := (pr32_spec a h1 h2).1
  simp only [Q]; omega

theorem full_reduce32_eq (m : Mode) (a : Int) (h1 : -2143289344 < a) (h2 : a < 2143289344) :
    full_reduce32 m a = .ok (a % Q) := by
  unfold full_reduce32
  simp only [Q] at *
  ksimp [partial_reduce32_eq, pr32]
  congr 1; omega

theorem center_mod_eq (m : Mode) (a : Int) (h1 : -2143289344 < a) (h2 : a < 2143289344) :
    center_mod m a = .ok (modpm Q a) := by
  unfold center_mod modpm
  simp only [Q] at *
  ksimp [full_reduce32_eq, Q]
  congr 1; split <;> omega

/-- the 32-bit Montgomery factor `t = (a as i32).wrapping_mul(QINV)` -/
def montT (a : Int) : Int := IT.i32.wrap (IT.i32.wrap a * 58728449)
def montv (a : Int) : Int := (a - montT a * 8380417) / 4294967296

theorem montT_range (a : Int) : -2147483648 ≤ montT a ∧ montT a ≤ 2147483647 := by
  unfold montT; simp only [IT.wrap, IT.lo, IT.modulus]; omega

/-- `a - t q` is an exact multiple of 2^32 (uses q * QINV = 1 + 114592 * 2^32) -/
theorem mont_exact (a : Int) : (a - montT a * 8380417) % 4294967296 = 0 := by
  unfold montT; simp only [IT.wrap, IT.lo, IT.modulus]
  have h : a - ((((a - -2147483648) % 4294967296 + -2147483648) * 58728449 - -2147483648) % 4294967296 + -2147483648) * 8380417
      = 4294967296 * ((((a - -2147483648) % 4294967296 + -2147483648) * 58728449 - -2147483648) / 4294967296 * 8380417
          - 114592 * a + 492168892383233 * ((a - -2147483648) / 4294967296)) := by omega
  rw [h]; omega

theorem mont_reduce_eq (m : Mode) (a : Int) (h1 : -17996808479301632 ≤ a) (h2 : a ≤ 17996808470921215) :
    mont_reduce m a = .ok (montv a) := by
  unfold mont_reduce montv
  have ht := montT_range a
  have he := mont_exact a
  unfold montT at *
  dsimp only
  generalize IT.i32.wrap (IT.i32.wrap a * 58728449) = t at *
  have hw := wrap64_id (t * 8380417) (by omega) (by omega)
  have hw2 := wrap32_id ((a - t * 8380417) / 4294967296) (by omega) (by omega)
  ksimp [hw, hw2]

theorem montv_spec (a : Int) (h1 : -17996808479301632 ≤ a) (h2 : a ≤ 17996808470921215) :
    (montv a * 4294967296 - a) % 8380417 = 0 ∧ -8380417 < montv a ∧ montv a < 8380417 := by
  unfold montv
  have ht := montT_range a
  have he := mont_exact a
  generalize montT a = t at *
  omega

/-- sharper bound used by the NTT envelope: |r| ≤ |a|/2^32 + q/2 + 2 -/
theorem montv_bound (a B : Int) (h1 : -B ≤ a) (h2 : a ≤ B) :
    -(B / 4294967296 + 4190210) ≤ montv a ∧ montv a ≤ B / 4294967296 + 4190210 := by
  unfold montv
  have ht := montT_range a
  generalize montT a = t at *
  omega

/-- exact value of `partial_reduce64` on the caller's shape `x << 32` -/
def pr64s (x : Int) : Int :=
  let a := x * 4294967296
  let a := a - a / 8388608 * 8380417
  let a := a - a / 8388608 * 8380417
  a - a * 33587228 / 281474976710656 * 8380417

/-- After its first two reduction steps `partial_reduce64 (x << 32)` holds `a2 = x * 4193792 - d * q` with
    `d = ⌊x * 4193792 / 2^23⌋ = ⌊x/2 - x/16384⌋`, and `a2 * M` (M = 33587228 = ⌊2^48 / q⌋) must fit i64.  The documented
    bound on `x` is the exact tipping point (at x = 67 058 537 `a2` is 118 below `⌊(2^63 - 1) / M⌋ = 274 609 504 447`, the bound proved
    here; x = 67 058 539 overflows), so the rounding of `d` matters on the
    last 1 500 values: there `x/16384` is constant and `d` is `x/2` shifted. -/
theorem pr64_a2_fits (x : Int) (h1 : -67058539 < x) (h2 : x < 67058539) :
    -274609504447 ≤ x * 4193792 - x * 4193792 / 8388608 * 8380417 ∧
      x * 4193792 - x * 4193792 / 8388608 * 8380417 ≤ 274609504447 := by
  by_cases hlo : x < -67057000
  · have hd : x * 4193792 / 8388608 = (x + 1) / 2 + 4092 := by omega
    omega
  by_cases hhi : 67057000 < x
  · have hd : x * 4193792 / 8388608 = x / 2 - 4093 := by omega
    rcases Int.emod_two_eq x with e | e <;> omega
  omega

theorem pr64s_spec (x : Int) (h1 : -67058539 < x) (h2 : x < 67058539) :
    (pr64s x - x * 4294967296) % 8380417 = 0 ∧ -16760834 < pr64s x ∧ pr64s x < 16760834 := by
  have hb := pr64_a2_fits x h1 h2
  have e0 : x * 4294967296 / 8388608 = x * 512 := by omega
  have e1 : x * 4294967296 - x * 512 * 8380417 = x * 4193792 := by omega
  unfold pr64s
  simp only [e0, e1]
  generalize x * 4193792 / 8388608 = d at hb ⊢
  generalize ha2 : x * 4193792 - d * 8380417 = a2 at hb ⊢
  omega

/-- **`partial_reduce64` on the caller's shape `x << 32`**, for every |x| < 67 058 539 (the documented bound), both build modes: no
    overflow, no failed assertion, and the value is `pr64s x` -/
theorem to_mont_coeff_eq (m : Mode) (x : Int) (h1 : -67058539 < x) (h2 : x < 67058539) :
    to_mont_coeff m x = .ok (pr64s x) := by
  have hb := pr64_a2_fits x h1 h2
  have hw := wrap64_id (x * 4294967296) (by omega) (by omega)
  have e0 : x * 4294967296 / 8388608 = x * 512 := by omega
  have e1 : x * 4294967296 - x * 512 * 8380417 = x * 4193792 := by omega
  generalize hd : x * 4193792 / 8388608 = d at hb
  generalize ha2 : x * 4193792 - d * 8380417 = a2 at hb
  generalize hq : a2 * 33587228 / 281474976710656 = q3
  have hw2 := wrap32_id (a2 - q3 * 8380417) (by omega) (by omega)
  unfold to_mont_coeff partial_reduce64 pr64s
  simp only [hw]
  ksimp [e0, e1, hd, ha2, hq, hw2]

end Fips204.K
