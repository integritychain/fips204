import Fips204.Lemmas.RecoverW1
import Fips204.Lemmas.SignSpec
import Fips204.Lemmas.VerifySpec
/-! An accepted signing attempt passes the verifier's test (exact specifications): the part of Algorithm 8 after
    signature decoding returns `true` on what lines 11-29 of Algorithm 7 produced. -/
namespace Fips204.Impl
open Fips204 Fips204.Gen Fips204.K

/-- lines 5-13 of Algorithm 8 after `sigDecode` and `ExpandA`, exact arithmetic -/
def verifyCoreS (m : Mode) (O : Oracles) (p : ParamSet) (aHat : List (List Poly)) (t1 : List Poly) (mu : List Nat)
    (cTilde : List Nat) (z h : List Poly) : M Bool := do
  let c ← sampleInBall m O false p.tau cTilde
  let w1 := List.zipWith (fun hp wp => List.zipWith (fun hh r => Spec.useHint p.gamma2 hh r) hp wp) h (wApproxS aHat z c t1)
  let w1t ← w1Encode m p w1 p.w1Len
  pure (decide (normInfS z < p.gamma1 - p.beta) && decide (cTilde = O.h (mu ++ w1t) p.lambdaDiv4))

theorem ite_none_ok_some {α} {c : Prop} [Decidable c] {x : M (Option α)} {v : α} (h : (if c then pure none else x) = .ok (some v)) :
    ¬c ∧ x = .ok (some v) := by
  by_cases hc : c
  · rw [if_pos hc] at h
    exact nomatch ok_inj h
  · rw [if_neg hc] at h
    exact ⟨hc, h⟩

theorem attemptSpec_some {m : Mode} {O : Oracles} {p : ParamSet} {s1 s2 t0 : List Poly} {aHat : List (List Poly)} {mu rhoPP : List Nat} {kappa : Int}
    {cT : List Nat} {z h : List Poly} (hatt : attemptSpec m O p s1 s2 t0 aHat mu rhoPP kappa = .ok (some (cT, z, h))) :
    ∃ y w1t c, expandMask m O p rhoPP kappa = .ok y ∧
      w1Encode m p ((commitS aHat y).map fun q => q.map (Spec.highBits p.gamma2)) p.w1Len = .ok w1t ∧
      cT = O.h (mu ++ w1t) p.lambdaDiv4 ∧ sampleInBall m O false p.tau cT = .ok c ∧
      z = List.zipWith (fun yp cp => List.zipWith (fun a b => modpm Q (a + b)) yp cp) y (s1.map (cmul c)) ∧
      h = attemptSpec.zw3L (fun a b c0 => if Spec.makeHint p.gamma2 (-c0) (a - b + c0) then (1 : Int) else 0) (commitS aHat y)
        (s2.map (cmul c)) (t0.map (cmul c)) ∧
      normInfS z < p.gamma1 - p.beta ∧
      normInfS (List.zipWith (fun wp cp => List.zipWith (fun a b => Spec.lowBits p.gamma2 (a - b)) wp cp) (commitS aHat y) (s2.map (cmul c))) <
        p.gamma2 - p.beta ∧
      normInfS (t0.map (cmul c)) < p.gamma2 ∧ ((onesAll h : Nat) : Int) ≤ p.omega := by
  unfold attemptSpec at hatt
  obtain ⟨y, hy, h1⟩ := bind_ok_inv hatt
  simp only [] at h1
  obtain ⟨w1t, hw1t, h2⟩ := bind_ok_inv h1
  obtain ⟨c, hc, h3⟩ := bind_ok_inv h2
  obtain ⟨hr1, h3⟩ := ite_none_ok_some h3
  obtain ⟨hr2, h3⟩ := ite_none_ok_some h3
  cases h3
  simp only [Bool.or_eq_true, decide_eq_true_eq, not_or, Int.not_le, ge_iff_le] at hr1 hr2
  exact ⟨y, w1t, c, hy, hw1t, rfl, hc, rfl, rfl, hr1.1, hr1.2, hr2.1, Int.not_lt.mp hr2.2⟩

theorem attempt_verifies (m : Mode) (O : Oracles) (hO : OracleOk O) (p : ParamSet)
    (hg : G2 p.gamma2) (hbeta : p.beta = p.eta * p.tau) (hbg : p.beta ≤ p.gamma2)
    (htau : 0 ≤ p.tau ∧ p.tau ≤ 64) (heta : 0 ≤ p.eta ∧ p.eta ≤ 4) {k l : Nat}
    (aHat : List (List Poly)) (s1 s2 : List Poly) (hA : MatSh k aHat) (hs1 : Sh l s1) (hs2 : VecIn k (-p.eta) p.eta s2)
    (mu rhoPP : List Nat) (kappa : Int) (hyS : ∀ y, expandMask m O p rhoPP kappa = .ok y → Sh l y)
    (cT : List Nat) (z h : List Poly) {t : List Poly} (ht : t = List.zipWith (fun row s2r => tRowS row s1 s2r) aHat s2)
    (hatt : attemptSpec m O p s1 s2 (t.map fun q => q.map fun x => (Spec.power2round x).2) aHat mu rhoPP kappa = .ok (some (cT, z, h))) :
    verifyCoreS m O p aHat (t.map fun q => q.map fun x => (Spec.power2round x).1) mu cT z h = .ok true := by
  subst ht
  obtain ⟨y, w1t, c, hy, hw1t, rfl, hc, rfl, rfl, r1, r2, r3, _⟩ := attemptSpec_some hatt
  have hTri : Tri c ∧ nz c = p.tau.toNat := (sampleInBall_np_tri m O hO false p.tau _ htau).ok_elim hc
  have hn : (nz c : Int) = p.tau := by rw [hTri.2]; exact Int.toNat_of_nonneg htau.1
  have hb0 : 0 ≤ p.beta := by rw [hbeta]; exact Int.mul_nonneg heta.1 htau.1
  have hsmall : p.eta * p.tau ≤ 4190208 := by
    have := Int.mul_le_mul heta.2 htau.2 htau.1 (by omega : (0 : Int) ≤ 4)
    omega
  have hcs2 : ∀ q ∈ s2.map (cmul c), ∀ x ∈ q, -p.beta ≤ modpm Q x ∧ modpm Q x ≤ p.beta := by
    intro q hq x hx
    obtain ⟨u, hu, rfl⟩ := List.mem_map.mp hq
    have := cmul_centered_bound c u p.tau p.eta hTri.1 hn (hs2.1.2 u hu) (hs2.2 u hu) hsmall x hx
    rw [hbeta]; exact this
  have hrec := verifier_recovers_w1 p.gamma2 p.beta hg ⟨hb0, hbg⟩ hA hs1 hs2.1 (hyS y hy) hTri.1.1 rfl hcs2
    (normInfS_bound _ _ r2) (normInfS_bound _ _ r3)
  unfold verifyCoreS attemptSpec.zw3L
  rw [hc, ok_bind]
  simp only []
  rw [hrec, hw1t, ok_bind, pure_eq]
  congr 1
  simp only [Bool.and_eq_true, decide_eq_true_eq, and_true]
  exact r1

theorem expandMask_len (m : Mode) (O : Oracles) (p : ParamSet) (rho : List Nat) (kappa : Int) (ys : List Poly)
    (h : expandMask m O p rho kappa = .ok ys) : ys.length = p.l ∧ ∀ u ∈ ys, u.length = 256 := by
  unfold expandMask at h
  obtain ⟨g1, _, h⟩ := bind_ok_inv h
  obtain ⟨bl, _, h⟩ := bind_ok_inv h
  obtain ⟨_, _, h⟩ := bind_ok_inv h
  split at h
  · cases h
  obtain ⟨ys', hm, h⟩ := bind_ok_inv h
  obtain ⟨_, _, h⟩ := bind_ok_inv h
  cases h
  refine ⟨by rw [mapM_len _ _ _ hm, List.length_range], ?_⟩
  refine mapM_all _ (fun u => u.length = 256) _ _ hm (fun r _ b hb => ?_)
  obtain ⟨n, _, hb⟩ := bind_ok_inv hb
  simp only [] at hb
  obtain ⟨vs, _, hb⟩ := bind_ok_inv hb
  obtain ⟨o, ho, hb⟩ := bind_ok_inv hb
  cases o with
  | none => cases hb
  | some y =>
    cases hb
    exact (bitUnpack_accepts m _ _ _ _ ho).1

theorem attempt_wf (m : Mode) (O : Oracles) (hO : OracleOk O) (p : ParamSet) (hb0 : 0 ≤ p.beta) (hom : 0 ≤ p.omega) (htau : 0 ≤ p.tau ∧ p.tau ≤ 64)
    (aHat : List (List Poly)) (s1 s2 t0 : List Poly) (hA : MatSh p.k aHat) (hs1 : Sh p.l s1) (hs2 : Sh p.k s2) (ht0 : Sh p.k t0)
    (mu rhoPP : List Nat) (kappa : Int) (cT : List Nat) (z h : List Poly)
    (hatt : attemptSpec m O p s1 s2 t0 aHat mu rhoPP kappa = .ok (some (cT, z, h))) :
    cT.length = p.lambdaDiv4 ∧ Sh p.l z ∧ (∀ q ∈ z, ∀ c ∈ q, -(p.gamma1 - 1) ≤ c ∧ c ≤ p.gamma1) ∧ Sh p.k h ∧ (∀ q ∈ h, Bin q) ∧
      onesAll h ≤ p.omega.toNat := by
  obtain ⟨y, w1t, c, hy, _, rfl, hc, rfl, rfl, r1, _, _, r4⟩ := attemptSpec_some hatt
  have hy : Sh p.l y := expandMask_len m O p rhoPP kappa y hy
  have hcl : c.length = 256 := ((sampleInBall_np_tri m O hO false p.tau _ htau).ok_elim hc).1.1
  have hh := Sh.zw3L (fun a b c0 => if Spec.makeHint p.gamma2 (-c0) (a - b + c0) then (1 : Int) else 0) (commitS_sh hA hy.2)
    (cmul_sh c hcl hs2) (cmul_sh c hcl ht0)
  refine ⟨hO.hlen _ _, Sh.zipWith₂ _ hy (cmul_sh c hcl hs1), fun q hq x hx => ?_, hh, fun q hq => ⟨hh.2 q hq, fun x hx => ?_⟩, by omega⟩
  · have hbn := normInfS_bound _ _ r1 q hq x hx
    obtain ⟨yp, _, cp, _, rfl⟩ := exists_of_mem_zipWith _ _ _ _ hq
    obtain ⟨a, _, b, _, rfl⟩ := exists_of_mem_zipWith _ _ _ _ hx
    rw [Spec.modpm_idem] at hbn
    omega
  · obtain ⟨ap, _, bc, _, rfl⟩ := exists_of_mem_zipWith _ _ _ _ hq
    obtain ⟨a, _, b, _, c0, _, rfl⟩ := exists_of_mem_zw3 _ _ _ _ x hx
    split
    · exact Or.inr rfl
    · exact Or.inl rfl

theorem loop_some_attempt (m : Mode) (O : Oracles) (p : ParamSet) (s1 s2 t0 : List Poly) (aHat : List (List Poly)) (mu rhoPP : List Nat)
    (cT : List Nat) (z h : List Poly) (n : Nat) :
    ∀ (fuel : Nat) (kappa : Int) (it : Nat), loopSpec m O p s1 s2 t0 aHat mu rhoPP fuel kappa it = .ok (cT, z, h, n) →
      ∃ kappa', attemptSpec m O p s1 s2 t0 aHat mu rhoPP kappa' = .ok (some (cT, z, h)) := by
  intro fuel
  induction fuel with
  | zero => intro kappa it hl; unfold loopSpec at hl; cases hl
  | succ fuel ih =>
    intro kappa it hl
    unfold loopSpec at hl
    obtain ⟨r, hr, hl⟩ := bind_ok_inv hl
    cases r with
    | some t =>
      obtain ⟨c', z', h'⟩ := t
      cases hl
      exact ⟨kappa, hr⟩
    | none =>
      simp only [] at hl
      split at hl
      · cases hl
      · obtain ⟨k', _, hl⟩ := bind_ok_inv hl
        exact ih k' (it + 1) hl

theorem signSpec_out (m : Mode) (O : Oracles) (hO : OracleOk O) (p : ParamSet) (blz : Nat) (cfg : SigCfg p blz)
    (hb0 : 0 ≤ p.beta) (htau : 0 ≤ p.tau ∧ p.tau ≤ 64)
    (fuel : Nat) (rho key tr : List Nat) (s1 s2 t0 : List Poly) (aHat : List (List Poly)) (hexp : expandA m O false p rho = .ok aHat)
    (hA : MatSh p.k aHat) (hs1 : Sh p.l s1) (hs2 : Sh p.k s2) (ht0 : Sh p.k t0)
    (msg ctx oid phm rnd : List Nat) (nist : Bool) (out : SignOut)
    (hsign : signSpec m O p fuel rho key tr s1 s2 t0 msg ctx oid phm rnd nist = .ok out) :
    ∃ kappa cT z h, attemptSpec m O p s1 s2 t0 aHat (muOf O domPure_sign domHash_sign tr msg ctx oid phm nist)
        (O.h (key ++ rnd ++ muOf O domPure_sign domHash_sign tr msg ctx oid phm nist) 64) kappa = .ok (some (cT, z, h)) ∧
      out.sig.length = p.sigLen ∧ (∀ b ∈ out.sig, b < 256) ∧ sigDecode m p out.sig = .ok (some (cT, z, h)) := by
  unfold signSpec at hsign
  rw [hexp, ok_bind] at hsign
  simp only [] at hsign
  obtain ⟨r, hloop, hsign⟩ := bind_ok_inv hsign
  obtain ⟨cT, z, h, it⟩ := r
  simp only [] at hsign
  obtain ⟨sig, henc, hsign⟩ := bind_ok_inv hsign
  cases hsign
  obtain ⟨kappa, hatt⟩ := loop_some_attempt m O p s1 s2 t0 aHat _ _ cT z h it fuel 0 0 hloop
  obtain ⟨w1, w2, w3, w4, w5, w6⟩ := attempt_wf m O hO p hb0 cfg.om htau aHat s1 s2 t0 hA hs1 hs2 ht0 _ _ kappa cT z h hatt
  obtain ⟨f1, f2, f3⟩ := sigEncode_facts m p blz cfg cT z h w1 w2 w3 w4 w5 w6 sig henc
  obtain ⟨_, _, _, _, _, hcT, _⟩ := attemptSpec_some hatt
  exact ⟨kappa, cT, z, h, hatt, f1, f2 (by rw [hcT]; exact hO.hbyte _ _), f3⟩

theorem sign_verify_spec (m : Mode) (O : Oracles) (hO : OracleOk O) (p : ParamSet) (blz : Nat) (cfg : SigCfg p blz)
    (hg : p.gamma2 = 95232 ∨ p.gamma2 = 261888) (hbeta : p.beta = p.eta * p.tau) (hbg : p.beta ≤ p.gamma2)
    (htau : 0 ≤ p.tau ∧ p.tau ≤ 64) (heta : 0 ≤ p.eta ∧ p.eta ≤ 4)
    (fuel : Nat) (rho key tr : List Nat) (s1 s2 : List Poly) (aHat : List (List Poly)) (hexp : expandA m O false p rho = .ok aHat)
    (hA : ∀ row ∈ aHat, ∀ a ∈ row, a.length = 256) (hk : aHat.length = p.k)
    (hs1 : s1.length = p.l ∧ ∀ u ∈ s1, u.length = 256) (hs2 : s2.length = p.k ∧ ∀ u ∈ s2, u.length = 256)
    (hs2b : ∀ u ∈ s2, ∀ x ∈ u, -p.eta ≤ x ∧ x ≤ p.eta)
    (msg ctx oid phm rnd : List Nat) (nist : Bool) (out : SignOut)
    (hsign : signSpec m O p fuel rho key tr s1 s2
      ((List.zipWith (fun row s2r => tRowS row s1 s2r) aHat s2).map (fun q => q.map (fun x => (Spec.power2round x).2)))
      msg ctx oid phm rnd nist = .ok out) :
    verifySpec m O false p rho tr
      ((List.zipWith (fun row s2r => tRowS row s1 s2r) aHat s2).map (fun q => q.map (fun x => (Spec.power2round x).1)))
      msg out.sig ctx oid phm nist = .ok true := by
  have hb0 : 0 ≤ p.beta := by rw [hbeta]; exact Int.mul_nonneg heta.1 htau.1
  obtain ⟨kappa, cT, z, h, hatt, _, _, hdec⟩ := signSpec_out m O hO p blz cfg hb0 htau fuel rho key tr s1 s2 _ aHat hexp ⟨hk, hA⟩ hs1 hs2
    ((tRowS_in ⟨hk, hA⟩ hs1.2 hs2).1.map₂ _) msg ctx oid phm rnd nist out hsign
  have hv := attempt_verifies m O hO p hg hbeta hbg htau heta aHat s1 s2 ⟨hk, hA⟩ hs1 ⟨hs2, hs2b⟩ _ _ kappa
    (fun y hy => expandMask_len m O p _ kappa y hy) cT z h rfl hatt
  unfold verifySpec
  simp only [] at hdec ⊢
  rw [hdec, ok_bind]
  simp only []
  unfold verifyCoreS at hv
  obtain ⟨c, hc, hv⟩ := bind_ok_inv hv
  rw [hc, ok_bind, hexp, ok_bind]
  exact hv

end Fips204.Impl
