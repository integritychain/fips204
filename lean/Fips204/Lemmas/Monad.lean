import Fips204.Impl.Ntt
import Fips204.Lemmas.Arith
/-! `M = Except Fault` and its list combinators.  `mapM`, `idx`, `slice` have one characterisation of `… = .ok r` each; the forms the
    proofs use (length, membership, existence under a precondition, closed form) are read off from it.  The two zips are `mapM` over
    `List.zip`, so they inherit everything.  `foldlM` has invariant rules instead. -/
namespace Fips204.Impl
open Fips204


theorem flatten_length {α} (n : Nat) : ∀ (cs : List (List α)), (∀ x ∈ cs, x.length = n) → cs.flatten.length = cs.length * n := by
  intro cs
  induction cs with
  | nil => intro _; simp
  | cons c cs ih =>
    intro h
    rw [List.flatten_cons, List.length_append, h c (List.mem_cons_self ..), ih (fun x hx => h x (List.mem_cons_of_mem _ hx)),
      List.length_cons, Nat.add_mul, Nat.one_mul]; omega

theorem mem_of_mem_slice {α} (l : List α) (a n : Nat) (x : α) (h : x ∈ (l.drop a).take n) : x ∈ l :=
  List.mem_of_mem_drop (List.mem_of_mem_take h)

theorem zeroPoly_length : zeroPoly.length = 256 := List.length_replicate ..

theorem zeroPoly_get (j : Nat) (h : j < 256) : zeroPoly[j]? = some 0 := by
  unfold zeroPoly; rw [List.getElem?_replicate, if_pos h]

theorem eq_zero_of_mem_zeroPoly {x : Int} (h : x ∈ zeroPoly) : x = 0 := List.eq_of_mem_replicate h

theorem bind_eq_ok {α β} {x : M α} {f : α → M β} {r : β} : (x >>= f) = .ok r ↔ ∃ a, x = .ok a ∧ f a = .ok r := by
  cases x with
  | error e => rw [error_bind]; exact ⟨fun h => (nomatch h), fun ⟨_, h, _⟩ => (nomatch h)⟩
  | ok a => rw [ok_bind]; exact ⟨fun h => ⟨a, rfl, h⟩, fun ⟨_, h, hf⟩ => by cases h; exact hf⟩

theorem bind_ok_inv {α β} {x : M α} {f : α → M β} {r : β} (h : (x >>= f) = .ok r) : ∃ a, x = .ok a ∧ f a = .ok r :=
  bind_eq_ok.mp h

/-- the form in which `simp` walks a whole `do` block for a property of what it returns -/
theorem bind_ok_imp {α β} {x : M α} {f : α → M β} {P : β → Prop} :
    (∀ r, (x >>= f) = .ok r → P r) ↔ ∀ a, x = .ok a → ∀ r, f a = .ok r → P r :=
  ⟨fun h a ha r hr => h r (bind_eq_ok.mpr ⟨a, ha, hr⟩), fun h r hr => by
    obtain ⟨a, ha, hf⟩ := bind_ok_inv hr
    exact h a ha r hf⟩

theorem ok_inj {α} {a b : α} (h : (Except.ok a : M α) = .ok b) : a = b := by cases h; rfl

theorem pure_eq_ok {α} {a b : α} : (pure a : M α) = .ok b ↔ a = b := by
  rw [pure_eq]; exact ⟨ok_inj, fun h => h ▸ rfl⟩

theorem ite_eq_ok {α} {c : Prop} [Decidable c] {x y : M α} {r : α} :
    (if c then x else y) = .ok r ↔ (c ∧ x = .ok r) ∨ (¬c ∧ y = .ok r) := by
  split <;> simp [*]

theorem throw_eq_ok {α} (e : Fault) (r : α) : ((throw e : M α) = .ok r) = False :=
  eq_false (fun h => nomatch h)

theorem mapM_eq_ok {α β} (f : α → M β) : ∀ (l : List α) (r : List β),
    l.mapM f = .ok r ↔ r.length = l.length ∧ ∀ i (h : i < l.length) (h' : i < r.length), f l[i] = .ok r[i] := by
  intro l
  induction l with
  | nil =>
    intro r
    rw [List.mapM_nil, pure_eq_ok]
    exact ⟨fun h => h ▸ ⟨rfl, fun _ h => absurd h (Nat.not_lt_zero _)⟩, fun h => (List.eq_nil_of_length_eq_zero h.1).symm⟩
  | cons a as ih =>
    intro r
    rw [List.mapM_cons]
    constructor
    · intro h
      obtain ⟨b, hb, h⟩ := bind_ok_inv h
      obtain ⟨bs, hbs, h⟩ := bind_ok_inv h
      obtain rfl := pure_eq_ok.mp h
      obtain ⟨hl, hi⟩ := (ih bs).mp hbs
      refine ⟨by rw [List.length_cons, List.length_cons, hl], fun i h h' => ?_⟩
      cases i with
      | zero => exact hb
      | succ i => exact hi i (Nat.lt_of_succ_lt_succ h) (Nat.lt_of_succ_lt_succ h')
    · intro ⟨hl, hi⟩
      cases r with
      | nil => cases hl
      | cons b bs =>
        have h0 := hi 0 (Nat.zero_lt_succ _) (Nat.zero_lt_succ _)
        have hs := (ih bs).mpr ⟨Nat.succ.inj hl, fun i h h' => hi (i + 1) (Nat.succ_lt_succ h) (Nat.succ_lt_succ h')⟩
        rw [List.getElem_cons_zero, List.getElem_cons_zero] at h0
        rw [h0, ok_bind, hs, ok_bind, pure_eq]

theorem mapM_len {α β} (f : α → M β) : ∀ (l : List α) (r : List β), l.mapM f = .ok r → r.length = l.length :=
  fun l r h => ((mapM_eq_ok f l r).mp h).1

theorem mapM_get {α β} (f : α → M β) (l : List α) (r : List β) (h : l.mapM f = .ok r) :
    ∀ i (h1 : i < l.length) (h2 : i < r.length), f l[i] = .ok r[i] :=
  ((mapM_eq_ok f l r).mp h).2

theorem mapM_mem {α β} (f : α → M β) (l : List α) (r : List β) (h : l.mapM f = .ok r) {b : β} (hb : b ∈ r) :
    ∃ a ∈ l, f a = .ok b := by
  obtain ⟨i, hi, rfl⟩ := List.getElem_of_mem hb
  have hi' : i < l.length := mapM_len f l r h ▸ hi
  exact ⟨l[i], List.getElem_mem hi', mapM_get f l r h i hi' hi⟩

theorem mapM_all {α β} (f : α → M β) (P : β → Prop) : ∀ (l : List α) (r : List β), l.mapM f = .ok r →
    (∀ a ∈ l, ∀ b, f a = .ok b → P b) → ∀ b ∈ r, P b := fun l r h hp _ hb =>
  have ⟨a, ha, hab⟩ := mapM_mem f l r h hb
  hp a ha _ hab

theorem mapM_isOk {α β} (f : α → M β) : ∀ l : List α, (∀ a ∈ l, ∃ b, f a = .ok b) → ∃ r, l.mapM f = .ok r := by
  intro l
  induction l with
  | nil => intro _; exact ⟨[], by rw [List.mapM_nil, pure_eq]⟩
  | cons a as ih =>
    intro h
    obtain ⟨b, hb⟩ := h a (List.mem_cons_self ..)
    obtain ⟨bs, hbs⟩ := ih (fun x hx => h x (List.mem_cons_of_mem _ hx))
    exact ⟨b :: bs, by rw [List.mapM_cons, hb, ok_bind, hbs, ok_bind, pure_eq]⟩

theorem mapM_rel {α β} (f : α → M β) (R : α → β → Prop) (l : List α) (h : ∀ a ∈ l, ∃ b, f a = .ok b ∧ R a b) :
    ∃ l', l.mapM f = .ok l' ∧ l'.length = l.length ∧ ∀ i (h1 : i < l.length) (h2 : i < l'.length), R l[i] l'[i] := by
  obtain ⟨r, hr⟩ := mapM_isOk f l (fun a ha => (h a ha).imp fun _ hb => hb.1)
  refine ⟨r, hr, mapM_len f l r hr, fun i h1 h2 => ?_⟩
  obtain ⟨b, hb, hR⟩ := h l[i] (List.getElem_mem h1)
  rwa [← ok_inj ((mapM_get f l r hr i h1 h2).symm.trans hb)] at hR

theorem mapM_ok_len {α β} (f : α → M β) (P : α → Prop) (R : β → Prop) (hf : ∀ a, P a → ∃ b, f a = .ok b ∧ R b)
    (l : List α) (h : ∀ a ∈ l, P a) : ∃ l', l.mapM f = .ok l' ∧ l'.length = l.length ∧ ∀ b ∈ l', R b := by
  obtain ⟨r, hr, hl, hR⟩ := mapM_rel f (fun _ b => R b) l (fun a ha => hf a (h a ha))
  refine ⟨r, hr, hl, fun b hb => ?_⟩
  obtain ⟨i, hi, rfl⟩ := List.getElem_of_mem hb
  exact hR i (hl ▸ hi) hi

theorem mapM_ok {α β} (f : α → M β) (P : α → Prop) (R : β → Prop) (hf : ∀ a, P a → ∃ b, f a = .ok b ∧ R b)
    (l : List α) (h : ∀ a ∈ l, P a) : ∃ l', l.mapM f = .ok l' ∧ ∀ b ∈ l', R b :=
  have ⟨r, hr, _, hR⟩ := mapM_ok_len f P R hf l h
  ⟨r, hr, hR⟩

theorem mapM_pure {α β} (f : α → M β) (g : α → β) (l : List α) (h : ∀ a ∈ l, f a = .ok (g a)) : l.mapM f = .ok (l.map g) :=
  (mapM_eq_ok f l _).mpr ⟨List.length_map _, fun i h1 _ => by rw [List.getElem_map]; exact h _ (List.getElem_mem h1)⟩

theorem mapM_eq_self {α} (f : α → M α) (l : List α) (h : ∀ a ∈ l, f a = .ok a) : l.mapM f = .ok l := by
  have := mapM_pure f id l h
  rwa [List.map_id] at this

theorem mapM_fuse {α β γ} (f : α → M β) (g : β → M γ) (l : List α) (r : List γ) (h : l.mapM (fun a => f a >>= g) = .ok r) :
    ∃ l', l.mapM f = .ok l' ∧ l'.mapM g = .ok r := by
  obtain ⟨hl, hi⟩ := (mapM_eq_ok _ l r).mp h
  obtain ⟨l', hl'⟩ := mapM_isOk f l (fun a ha => by
    obtain ⟨i, hi', rfl⟩ := List.getElem_of_mem ha
    obtain ⟨b, hb, _⟩ := bind_ok_inv (hi i hi' (hl ▸ hi'))
    exact ⟨b, hb⟩)
  have hll := mapM_len f l l' hl'
  refine ⟨l', hl', (mapM_eq_ok g l' r).mpr ⟨hl.trans hll.symm, fun i h1 h2 => ?_⟩⟩
  have := hi i (hll ▸ h1) h2
  rwa [mapM_get f l l' hl' i (hll ▸ h1) h1, ok_bind] at this

theorem mapM_inverse_ok {α β} (f : α → M β) (g : β → α) (l : List α) (h : ∀ a ∈ l, ∃ b, f a = .ok b ∧ g b = a) :
    ∃ r, l.mapM f = .ok r ∧ r.map g = l := by
  obtain ⟨r, hr, hl, hR⟩ := mapM_rel f (fun a b => g b = a) l h
  refine ⟨r, hr, List.ext_getElem (by rw [List.length_map, hl]) fun i h1 h2 => ?_⟩
  rw [List.getElem_map]
  exact hR i h2 (by rw [List.length_map] at h1; exact h1)

theorem zipWithM_eq_mapM {α β γ} (f : α → β → M γ) : ∀ (l : List α) (l' : List β),
    zipWithM f l l' = (l.zip l').mapM (fun p => f p.1 p.2) := by
  intro l
  induction l with
  | nil => intro l'; rw [List.zip_nil_left, List.mapM_nil]; rfl
  | cons a as ih =>
    intro l'
    cases l' with
    | nil => rw [List.zip_nil_right, List.mapM_nil]; rfl
    | cons b bs => rw [List.zip_cons_cons, List.mapM_cons, ← ih bs]; rfl

theorem zipWith3M_eq_mapM {α β γ δ} (f : α → β → γ → M δ) : ∀ (l : List α) (l' : List β) (l'' : List γ),
    zipWith3M f l l' l'' = (l.zip (l'.zip l'')).mapM (fun p => f p.1 p.2.1 p.2.2) := by
  intro l
  induction l with
  | nil => intro l' l''; rw [List.zip_nil_left, List.mapM_nil]; rfl
  | cons a as ih =>
    intro l' l''
    cases l' with
    | nil => rw [List.zip_nil_left, List.zip_nil_right, List.mapM_nil]; rfl
    | cons b bs =>
      cases l'' with
      | nil => rw [List.zip_nil_right, List.zip_nil_right, List.mapM_nil]; rfl
      | cons c cs => rw [List.zip_cons_cons, List.zip_cons_cons, List.mapM_cons, ← ih bs cs]; rfl

theorem zipWithM_len {α β γ} (f : α → β → M γ) : ∀ (l : List α) (l' : List β) (r : List γ), zipWithM f l l' = .ok r →
    r.length = min l.length l'.length := by
  intro l l' r h
  rw [zipWithM_eq_mapM] at h; rw [mapM_len _ _ _ h, List.length_zip]

theorem zipWithM_all {α β γ} (f : α → β → M γ) (P : γ → Prop) : ∀ (l : List α) (l' : List β) (r : List γ), zipWithM f l l' = .ok r →
    (∀ a ∈ l, ∀ b ∈ l', ∀ c, f a b = .ok c → P c) → ∀ c ∈ r, P c := by
  intro l l' r h hp
  rw [zipWithM_eq_mapM] at h
  exact mapM_all _ P _ r h (fun p hp' c hc => hp p.1 (List.of_mem_zip hp').1 p.2 (List.of_mem_zip hp').2 c hc)

theorem zipWithM_ok_len {α β γ} (f : α → β → M γ) (P : α → Prop) (P' : β → Prop) (R : γ → Prop)
    (hf : ∀ a b, P a → P' b → ∃ c, f a b = .ok c ∧ R c) (l : List α) (l' : List β) (h : ∀ a ∈ l, P a) (h' : ∀ b ∈ l', P' b) :
    ∃ r, zipWithM f l l' = .ok r ∧ r.length = min l.length l'.length ∧ ∀ c ∈ r, R c := by
  rw [zipWithM_eq_mapM, ← List.length_zip]
  exact mapM_ok_len _ (fun p => P p.1 ∧ P' p.2) R (fun p hp => hf p.1 p.2 hp.1 hp.2) _
    (fun p hp => ⟨h _ (List.of_mem_zip hp).1, h' _ (List.of_mem_zip hp).2⟩)

theorem zipWithM_pure {α β γ} (f : α → β → M γ) (g : α → β → γ) (P : α → Prop) (P' : β → Prop)
    (hf : ∀ a b, P a → P' b → f a b = .ok (g a b)) (l : List α) (l' : List β) (h : ∀ a ∈ l, P a) (h' : ∀ b ∈ l', P' b) :
    zipWithM f l l' = .ok (List.zipWith g l l') := by
  rw [zipWithM_eq_mapM, ← List.map_uncurry_zip_eq_zipWith]
  exact mapM_pure _ _ _ (fun p hp => hf p.1 p.2 (h _ (List.of_mem_zip hp).1) (h' _ (List.of_mem_zip hp).2))

theorem zipWith3M_len {α β γ δ} (f : α → β → γ → M δ) : ∀ (l : List α) (l' : List β) (l'' : List γ) (r : List δ),
    zipWith3M f l l' l'' = .ok r → r.length = min l.length (min l'.length l''.length) := by
  intro l l' l'' r h
  rw [zipWith3M_eq_mapM] at h; rw [mapM_len _ _ _ h, List.length_zip, List.length_zip]

/-- `zw3` and `attemptSpec.zw3L` are instances of the right-hand side -/
theorem zipWith3M_eq_zipWith {α β γ δ} (f : α → β → γ → M δ) (g : α → β → γ → δ) (P : α → Prop) (P' : β → Prop) (P'' : γ → Prop)
    (hf : ∀ a b c, P a → P' b → P'' c → f a b c = .ok (g a b c)) (l : List α) (l' : List β) (l'' : List γ)
    (h : ∀ a ∈ l, P a) (h' : ∀ b ∈ l', P' b) (h'' : ∀ c ∈ l'', P'' c) :
    zipWith3M f l l' l'' = .ok (List.zipWith (fun a (bc : β × γ) => g a bc.1 bc.2) l (l'.zip l'')) := by
  rw [zipWith3M_eq_mapM, ← List.map_uncurry_zip_eq_zipWith]
  exact mapM_pure _ _ _ (fun p hp => hf p.1 p.2.1 p.2.2 (h _ (List.of_mem_zip hp).1)
    (h' _ (List.of_mem_zip (List.of_mem_zip hp).2).1) (h'' _ (List.of_mem_zip (List.of_mem_zip hp).2).2))

theorem zipWithM_map_pure {α β γ} (g : α → β → M γ) (f : α → β) (h : α → γ) (l : List α) (hl : ∀ x ∈ l, g x (f x) = .ok (h x)) :
    zipWithM g l (l.map f) = .ok (l.map h) := by
  rw [zipWithM_eq_mapM]
  refine (mapM_eq_ok _ _ _).mpr ⟨by simp, fun i h1 h2 => ?_⟩
  simp only [List.getElem_zip, List.getElem_map]
  exact hl _ (List.getElem_mem _)

theorem zipWith3M_map_pure {α β γ δ} (g : α → β → γ → M δ) (f1 : α → β) (f2 : α → γ) (h : α → δ) (l : List α)
    (hl : ∀ x ∈ l, g x (f1 x) (f2 x) = .ok (h x)) : zipWith3M g l (l.map f1) (l.map f2) = .ok (l.map h) := by
  rw [zipWith3M_eq_mapM]
  refine (mapM_eq_ok _ _ _).mpr ⟨by simp, fun i h1 h2 => ?_⟩
  simp only [List.getElem_zip, List.getElem_map]
  exact hl _ (List.getElem_mem _)

/-- The invariant `I rest s` sees the list still to be read: counting invariants use `rest.length`, preconditions on the elements
    `∀ a ∈ rest`. -/
theorem foldlM_ok {σ α} (f : σ → α → M σ) (I : List α → σ → Prop)
    (step : ∀ a rest s, I (a :: rest) s → ∃ s', f s a = .ok s' ∧ I rest s') :
    ∀ (l : List α) (s : σ), I l s → ∃ s', l.foldlM f s = .ok s' ∧ I [] s' := by
  intro l
  induction l with
  | nil => intro s h; exact ⟨s, by rw [List.foldlM_nil, pure_eq], h⟩
  | cons a as ih =>
    intro s h
    obtain ⟨s1, h1, hI⟩ := step a as s h
    obtain ⟨s', h2, hI'⟩ := ih s1 hI
    exact ⟨s', by rw [List.foldlM_cons, h1, ok_bind, h2], hI'⟩

theorem foldlM_ok_prefix {σ α} (f : σ → α → M σ) (I : List α → σ → Prop) (l : List α)
    (step : ∀ pre x post s, l = pre ++ x :: post → I pre s → ∃ s', f s x = .ok s' ∧ I (pre ++ [x]) s')
    (s : σ) (h0 : I [] s) : ∃ s', l.foldlM f s = .ok s' ∧ I l s' := by
  obtain ⟨s', hs, pre, e, hI⟩ := foldlM_ok f (fun rest s => ∃ pre, l = pre ++ rest ∧ I pre s)
    (fun x rest s ⟨pre, e, h⟩ => by
      obtain ⟨s', h1, h2⟩ := step pre x rest s e h
      exact ⟨s', h1, pre ++ [x], by rw [e, List.append_assoc]; rfl, h2⟩) l s ⟨[], rfl, h0⟩
  rw [List.append_nil] at e
  exact ⟨s', hs, e ▸ hI⟩

theorem foldlM_invariant {σ α} (f : σ → α → M σ) (I : List α → σ → Prop)
    (step : ∀ a rest s s', I (a :: rest) s → f s a = .ok s' → I rest s') :
    ∀ (l : List α) (s s' : σ), I l s → l.foldlM f s = .ok s' → I [] s' := by
  intro l
  induction l with
  | nil => intro s s' h hs; rw [List.foldlM_nil, pure_eq_ok] at hs; exact hs ▸ h
  | cons a as ih =>
    intro s s' h hs
    rw [List.foldlM_cons] at hs
    obtain ⟨s1, h1, hs⟩ := bind_ok_inv hs
    exact ih s1 s' (step a as s s1 h h1) hs

theorem idx_eq_ok {α} (site : String) (l : List α) (i : Nat) (x : α) : idx site l i = .ok x ↔ l[i]? = some x := by
  unfold idx
  cases l[i]? with
  | none => exact ⟨fun h => (nomatch h), fun h => (nomatch h)⟩
  | some y => exact ⟨fun h => congrArg some (pure_eq_ok.mp h), fun h => pure_eq_ok.mpr (Option.some.inj h)⟩

theorem idx_eq {α} (site : String) (l : List α) (i : Nat) (h : i < l.length) : idx site l i = .ok l[i] :=
  (idx_eq_ok ..).mpr (List.getElem?_eq_getElem h)

theorem slice_eq_ok {α} (site : String) (l : List α) (a b : Nat) (r : List α) :
    slice site l a b = .ok r ↔ (a ≤ b ∧ b ≤ l.length) ∧ (l.drop a).take (b - a) = r := by
  unfold slice
  split
  · next h => rw [pure_eq_ok]; exact ⟨fun e => ⟨h, e⟩, fun e => e.2⟩
  · next h => exact ⟨fun e => (nomatch e), fun e => absurd e.1 h⟩

theorem slice_eq {α} (site : String) (l : List α) (a b : Nat) (h : a ≤ b ∧ b ≤ l.length) :
    slice site l a b = .ok ((l.drop a).take (b - a)) := (slice_eq_ok ..).mpr ⟨h, rfl⟩

end Fips204.Impl
