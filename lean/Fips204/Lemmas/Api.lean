import Fips204.Impl.Api
import Fips204.Lemmas.Monad
import Fips204.Lemmas.NoPanic
import Fips204.Spec.Format
import Fips204.Spec.MlDsa
/-! Each entry point of `Impl/Api` as one equation: the context guard, the 32-byte draw, the internal function.
    Nothing else needs to unfold a guard, `draw` or a `Gen.rng*` constant.  Then the words in which the entry points are stated
    against Algorithms 1-5 of the standard. -/
namespace Fips204.Impl
open Fips204 Fips204.Gen

/-- the buffer a fallible `n`-byte request whose error is propagated leaves the caller with; `none` = `Err` is returned -/
def drawn (n : Nat) : List RngResp → Option (List Nat)
  | RngResp.ok b :: _ => if b.isEmpty then none else some ((List.range n).map (fun i => b[i % b.length]!))
  | _ => none

theorem draw_eq (script : List RngResp) (n : Nat) :
    draw "try_fill_bytes" true script n = .ok (drawn n script, script.tail, .tryFill n) := by
  unfold draw drawn
  rw [if_pos (by decide)]
  match script with
  | [] => rfl
  | RngResp.errBefore :: _ => rfl
  | RngResp.errAfter _ :: _ => rfl
  | RngResp.ok b :: _ =>
    dsimp only [List.tail_cons]
    split
    · rfl
    · rfl

theorem drawn_eq (bs : List Nat) (rest : List RngResp) (n : Nat) (h : bs.length = n) (hn : n ≠ 0) :
    drawn n (RngResp.ok bs :: rest) = some bs := by
  show (if bs.isEmpty then none else some ((List.range n).map (fun i => bs[i % bs.length]!))) = some bs
  have hne : bs.isEmpty = false := by
    cases bs with
    | nil => exact absurd h.symm hn
    | cons _ _ => rfl
  rw [hne, if_neg (by decide)]
  congr 1
  apply List.ext_getElem (by rw [List.length_map, List.length_range, h])
  intro i h1 h2
  rw [List.getElem_map, List.getElem_range, Nat.mod_eq_of_lt h2, getElem!_pos bs i h2]

theorem keygenWithRng_eq (m : Mode) (O : Oracles) (p : ParamSet) (script : List RngResp) :
    keygenWithRng m O p script = match drawn 32 script with
      | none => .ok (.error .rng, [.tryFill 32])
      | some xi => keygenFromSeed m O p xi >>= fun kp => pure (.ok kp, [.tryFill 32]) := by
  unfold keygenWithRng keygenFromSeed
  rw [show rngMethod_keygen = "try_fill_bytes" from rfl, show rngErrPropagated_keygen = true from rfl, show rngBytes_keygen = 32 from rfl,
    draw_eq, ok_bind]
  cases drawn 32 script with
  | none => rfl
  | some xi => rfl

/-- Algorithm 6 line 1 and lines 8-10 read off `key_gen_internal`: how the seed expansion is split and what the two structs share -/
theorem keyGenInternal_fields (m : Mode) (O : Oracles) (ctest : Bool) (p : ParamSet) (xi : List Nat) (pk : PublicKey) (sk : PrivateKey)
    (h : keyGenInternal m O ctest p xi = .ok (pk, sk)) :
    let hh := O.h (xi ++ [p.k % 256, p.l % 256]) 128
    pk.rho = hh.take 32 ∧ sk.rho = hh.take 32 ∧ sk.key = (hh.drop 96).take 32 ∧ pk.tr = sk.tr := by
  simp only [keyGenInternal, bind_eq_ok, pure_eq_ok, Prod.exists, Prod.mk.injEq] at h
  -- the steps in the order of the model's text
  obtain ⟨s1, s2, -, aHat, -, s1Hat, -, as1, -, w, -, tnr, -, t, -, t1, t0, -, pkb, -, t1d2, -, s1hm, -, s2hm, -, t0hm, -, rfl, rfl⟩ := h
  exact ⟨rfl, rfl, rfl, rfl⟩

/-- the signers' guard `ensure!(ctx.len() < 256, ..)` (true = accepted) as the test `|ctx| > 255` of Algorithms 2 and 4 -/
theorem ite_not_lt256 {α} (n : Nat) (a b : α) : (if (!decide ((n : Int) < 256)) = true then a else b) = if n > 255 then a else b := by
  by_cases h : n > 255
  · rw [if_pos h, if_pos (by rw [Bool.not_eq_true', decide_eq_false_iff_not]; omega)]
  · rw [if_neg h, if_neg (by rw [Bool.not_eq_true', decide_eq_false_iff_not, Classical.not_not]; omega)]

/-- the verifiers' guard `if ctx.len() > 255 { return false }` (true = rejected) as the same test -/
theorem ite_gt255 {α} (n : Nat) (a b : α) : (if decide ((n : Int) > 255) = true then a else b) = if n > 255 then a else b := by
  by_cases h : n > 255
  · rw [if_pos h, if_pos (decide_eq_true (by omega))]
  · rw [if_neg h, if_neg (by rw [decide_eq_true_eq]; omega)]

theorem sign_eq (m : Mode) (O : Oracles) (p : ParamSet) (fuel : Nat) (sk : PrivateKey) (msg ctx : List Nat) (script : List RngResp) :
    sign m O p fuel sk msg ctx script = if ctx.length > 255 then .ok (.error .ctx, []) else match drawn 32 script with
      | none => .ok (.error .rng, [.tryFill 32])
      | some rnd => signInternal m O CTEST_default p fuel sk msg ctx [] [] rnd false >>= fun s => pure (.ok s, [.tryFill 32]) := by
  unfold sign signCtxGuard
  rw [pure_eq, ok_bind, ite_not_lt256, show rngMethod_sign = "try_fill_bytes" from rfl, show rngErrPropagated_sign = true from rfl,
    show rngBytes_sign = 32 from rfl, draw_eq, ok_bind]
  cases drawn 32 script with
  | none => rfl
  | some rnd => rfl

theorem hashSign_eq (m : Mode) (O : Oracles) (p : ParamSet) (fuel : Nat) (sk : PrivateKey) (msg ctx : List Nat) (ph : Ph) (script : List RngResp) :
    hashSign m O p fuel sk msg ctx ph script = if ctx.length > 255 then .ok (.error .ctx, []) else match drawn 32 script with
      | none => .ok (.error .rng, [.tryFill 32])
      | some rnd => signInternal m O CTEST_default p fuel sk msg ctx (hashMessage O msg ph).1 (hashMessage O msg ph).2 rnd false >>=
          fun s => pure (.ok s, [.tryFill 32]) := by
  unfold hashSign hashSignCtxGuard
  rw [pure_eq, ok_bind, ite_not_lt256, show rngMethod_hashSign = "try_fill_bytes" from rfl, show rngErrPropagated_hashSign = true from rfl,
    show rngBytes_hashSign = 32 from rfl, draw_eq, ok_bind]
  cases drawn 32 script with
  | none => rfl
  | some rnd => rfl

theorem drawEntry_np {α β} {script : List RngResp} {e : β} {f : List Nat → M α} {g : α → β} {P : α → Prop} (h : ∀ rnd, NoPanic (f rnd) P) :
    NoPanic (match drawn 32 script with
      | none => .ok e
      | some rnd => f rnd >>= fun s => pure (g s)) (fun _ => True) := by
  cases drawn 32 script with
  | none => exact NoPanic.ok _ trivial
  | some rnd => exact (h rnd).bind fun s _ => NoPanic.ok _ trivial

theorem bind_fuel_inv {α β} {x : M α} {f : α → M β} {s : String} (h : (x >>= f) = .error (.fuel s)) :
    x = .error (.fuel s) ∨ ∃ a, x = .ok a ∧ f a = .error (.fuel s) := by
  cases x with
  | error e => cases h; exact Or.inl rfl
  | ok a => exact Or.inr ⟨a, rfl, h⟩

theorem signEntry_ok_inv {n : Nat} {script : List RngResp} {f : List Nat → M SignOut} {s : SignOut} {log : List RngCall}
    (h : (if n > 255 then .ok (.error .ctx, []) else match drawn 32 script with
      | none => .ok (.error .rng, [.tryFill 32])
      | some rnd => f rnd >>= fun s => pure (.ok s, [.tryFill 32])) = (.ok (.ok s, log) : M (ApiRes SignOut × List RngCall))) :
    n ≤ 255 ∧ ∃ rnd, f rnd = .ok s := by
  by_cases hc : n > 255
  · rw [if_pos hc] at h
    exact nomatch h
  · rw [if_neg hc] at h
    cases hd : drawn 32 script with
    | none => rw [hd] at h; exact nomatch h
    | some rnd =>
      rw [hd] at h
      obtain ⟨s', hs', h⟩ := bind_ok_inv h
      obtain rfl : s' = s := by injection (Prod.mk.inj (ok_inj h)).1
      exact ⟨by omega, rnd, hs'⟩

theorem internalSign_eq (m : Mode) (O : Oracles) (p : ParamSet) (fuel : Nat) (sk : PrivateKey) (msg ctx rnd : List Nat) :
    internalSign m O p fuel sk msg ctx rnd = if ctx.length > 255 then .ok (.error .ctx) else
      signInternal m O CTEST_default p fuel sk msg ctx [] [] rnd true >>= fun s => pure (.ok s) := by
  unfold internalSign internalSignCtxGuard
  rw [pure_eq, ok_bind, ite_not_lt256]
  rfl

theorem verify_eq (m : Mode) (O : Oracles) (p : ParamSet) (pk : PublicKey) (msg sig ctx : List Nat) :
    verify m O p pk msg sig ctx = if ctx.length > 255 then .ok false else verifyInternal m O CTEST_default p pk msg sig ctx [] [] false := by
  unfold verify verifyCtxGuard
  rw [pure_eq, ok_bind, ite_gt255]
  rfl

theorem hashVerify_eq (m : Mode) (O : Oracles) (p : ParamSet) (pk : PublicKey) (msg sig ctx : List Nat) (ph : Ph) :
    hashVerify m O p pk msg sig ctx ph = if ctx.length > 255 then .ok false else
      verifyInternal m O CTEST_default p pk msg sig ctx (hashMessage O msg ph).1 (hashMessage O msg ph).2 false := by
  unfold hashVerify hashVerifyCtxGuard
  rw [pure_eq, ok_bind, ite_gt255]
  rfl

theorem internalVerify_eq (m : Mode) (O : Oracles) (p : ParamSet) (pk : PublicKey) (msg sig ctx : List Nat) :
    internalVerify m O p pk msg sig ctx = if ctx.length > 255 then .ok false else verifyInternal m O CTEST_default p pk msg sig ctx [] [] true := by
  unfold internalVerify internalVerifyCtxGuard
  rw [pure_eq, ok_bind, ite_gt255]
  rfl

theorem take_pad_take (l : List Nat) (n k : Nat) (h : l.length = n) : (l.take n ++ List.replicate k 0).take n = l := by
  rw [List.take_of_length_le (Nat.le_of_eq h)]
  exact List.take_left' h

/-- `hash_message` is the OID / digest table of Algorithm 4 (right OID bytes, digest neither truncated nor padded) -/
theorem hashMessage_is_spec (O : Oracles) (hO : Spec.WF O) (msg : List Nat) (ph : Ph) :
    hashMessage O msg ph = Spec.prehash O msg ph := by
  cases ph
  · simp only [hashMessage, Spec.prehash, show oid_SHA256 = Spec.oidSha256 by decide,
      show phWritten_SHA256 = 32 by decide, show phLen_SHA256 = 32 by decide, take_pad_take _ 32 _ (hO.sha256_len msg)]
  · simp only [hashMessage, Spec.prehash, show oid_SHA512 = Spec.oidSha512 by decide,
      show phWritten_SHA512 = 64 by decide, show phLen_SHA512 = 64 by decide, take_pad_take _ 64 _ (hO.sha512_len msg)]
  · simp only [hashMessage, Spec.prehash, show oid_SHAKE128 = Spec.oidShake128 by decide,
      show phWritten_SHAKE128 = 32 by decide, show phLen_SHAKE128 = 32 by decide,
      List.take_left' (hO.g_len msg 32)]

def specPh : Ph → Spec.PreHash
  | .sha256 => .sha256
  | .sha512 => .sha512
  | .shake128 => .shake128

theorem hashMessage_is_oidAndDigest (O : Oracles) (hW : Spec.WF O) (msg : List Nat) (ph : Ph) :
    hashMessage O msg ph = Spec.oidAndDigest O.sha256 O.sha512 O.g msg (specPh ph) := by
  rw [hashMessage_is_spec O hW msg ph]
  cases ph <;> rfl

theorem oid_nonempty (O : Oracles) (msg : List Nat) (ph : Spec.PreHash) :
    (Spec.oidAndDigest O.sha256 O.sha512 O.g msg ph).1.isEmpty = false := by
  cases ph <;> rfl

/-- the message representative is hashed from the standard's formatted message: signer and verifier pass the domain bytes 0 and 1 -/
theorem muOf_formatted (O : Oracles) (dp dh : Nat) (hp : dp = 0) (hh : dh = 1) (tr msg ctx oid phm : List Nat) (nist : Bool) :
    muOf O dp dh tr msg ctx oid phm nist = O.h (tr ++ Spec.formatted nist msg ctx oid phm) 64 := by
  subst hp hh
  unfold muOf Spec.formatted
  cases nist with
  | true => rfl
  | false =>
    simp only [Bool.false_eq_true, if_false]
    split
    · simp [ctxLenByte, List.append_assoc]
    · simp [ctxLenByte, List.append_assoc]

theorem formatted_pure (msg ctx : List Nat) : Spec.formatted false msg ctx [] [] = [0] ++ [ctx.length % 256] ++ ctx ++ msg := rfl

theorem formatted_hash (msg ctx oid phm : List Nat) (h : oid.isEmpty = false) :
    Spec.formatted false msg ctx oid phm = [1] ++ [ctx.length % 256] ++ ctx ++ oid ++ phm := by
  unfold Spec.formatted
  simp [h]

/-- Algorithms 2 / 3 and 4 / 5 around the internal algorithms: if the guarded signer returned `sigma`, and the internal verifier
    accepts what the internal signer returns, the guarded verifier accepts (a context longer than 255 bytes makes the signer return `⊥`) -/
theorem spec_guarded_round_trip {n : Nat} {sg : Option (List Nat)} {vf : Option Bool} {sigma : List Nat}
    (hsg : (if n > 255 then some none else sg.map some) = some (some sigma)) (h : sg = some sigma → vf = some true) :
    (if n > 255 then some false else vf) = some true := by
  by_cases hc : n > 255
  · rw [if_pos hc] at hsg
    exact nomatch hsg
  · rw [if_neg hc] at hsg ⊢
    obtain ⟨s', hs', e⟩ := Option.map_eq_some_iff.mp hsg
    obtain rfl := Option.some.inj e
    exact h hs'

/-- a result of the signing entry points against `Option (Option signature)` of the specification -/
def AgreesApiSig (r : M (ApiRes SignOut × List RngCall)) : Option (Option (List Nat)) → Prop
  | some (some sig) => ∃ it, r = .ok (.ok { sig := sig, iters := it }, [.tryFill 32])
  | some none => ∃ e log, r = .ok (.error e, log)
  | none => ∃ s, r = .error (.fuel s)

end Fips204.Impl
