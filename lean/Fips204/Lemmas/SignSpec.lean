import Fips204.Lemmas.KeygenSpec
import Fips204.Lemmas.SignOk
/-! Signing equals Algorithm 7 written with exact arithmetic modulo q (`signSpec`) and does not panic: one walk through each of
    `signAttempt`, `signLoop`, `sign_internal` (`*_sim`) gives both. -/
namespace Fips204.Impl
open Fips204 Fips204.Gen Fips204.K

theorem mulInv_spec (m : Mode) (site : String) {n : Nat} {c ch : Poly} {s sh : List Poly} (hc : PolyIn (-524288) 524288 c)
    (hs : VecIn n (-524288) 524288 s) (hch : nttPoly m c = .ok ch) (hsh : nttMont m s = .ok sh) :
    mulInv m site ch sh = .ok (s.map (cmul c)) ∧ VecIn n 0 8380416 (s.map (cmul c)) := by
  obtain ⟨ch', sh', e1, e2, e3⟩ := mulInv_eq m site c s hc.1 hc.2 (fun q hq => hs.poly hq)
  obtain rfl := ok_inj (hch.symm.trans e1)
  obtain rfl := ok_inj (hsh.symm.trans e2)
  exact ⟨e3, cmul_in c hc.1 hs.1⟩

/-- lines 11-29 of Algorithm 7 for one value of kappa; `none` = `(z, h) = ⊥` -/
def attemptSpec (m : Mode) (O : Oracles) (p : ParamSet) (s1 s2 t0 : List Poly) (aHat : List (List Poly))
    (mu rhoPP : List Nat) (kappa : Int) : M (Option (List Nat × List Poly × List Poly)) := do
  let y ← expandMask m O p rhoPP kappa
  let w := commitS aHat y
  let w1 := w.map (fun q => q.map (Spec.highBits p.gamma2))
  let w1t ← w1Encode m p w1 p.w1Len
  let cTilde := O.h (mu ++ w1t) p.lambdaDiv4
  let c ← sampleInBall m O false p.tau cTilde
  let cs1 := s1.map (cmul c)
  let cs2 := s2.map (cmul c)
  let z := List.zipWith (fun yp cp => List.zipWith (fun a b => modpm Q (a + b)) yp cp) y cs1
  let r0 := List.zipWith (fun wp cp => List.zipWith (fun a b => Spec.lowBits p.gamma2 (a - b)) wp cp) w cs2
  if decide (normInfS z ≥ p.gamma1 - p.beta) || decide (normInfS r0 ≥ p.gamma2 - p.beta) then pure none else
  let ct0 := t0.map (cmul c)
  let h := zw3L (fun a b c0 => if Spec.makeHint p.gamma2 (-c0) (a - b + c0) then (1 : Int) else 0) w cs2 ct0
  if decide (normInfS ct0 ≥ p.gamma2) || decide (((onesAll h : Nat) : Int) > p.omega) then pure none else
  pure (some (cTilde, z, h))
where
  zw3L (g : Int → Int → Int → Int) (a b c : List Poly) : List Poly :=
    List.zipWith (fun ap (bc : Poly × Poly) => zw3 g ap bc.1 bc.2) a (List.zip b c)

def centerRes (r : Option (List Nat × List Poly × List Poly)) : Option (List Nat × List Poly × List Poly) :=
  r.map (fun t => (t.1, t.2.1.map (fun q => q.map (modpm Q)), t.2.2))

theorem normInfS_center (z : List Poly) : normInfS (z.map (fun q => q.map (modpm Q))) = normInfS z := by
  unfold normInfS
  have : (z.map (fun q => q.map (modpm Q))).flatten.map (fun e => absI (modpm Q e)) = z.flatten.map (fun e => absI (modpm Q e)) := by
    rw [← List.map_flatten, List.map_map]
    apply List.map_congr_left
    intro e _
    simp only [Function.comp, Spec.modpm_idem]
  rw [this]

/-- the response is returned uncentred by the crate and centred by the specification; everything else is equal -/
theorem signAttempt_sim (m : Mode) (O : Oracles) (hO : OracleOk O) (p : ParamSet) (blz : Nat) (cfg : VerCfg p blz) (hk : 1 ≤ p.k ∧ p.k ≤ 8)
    (he : 0 ≤ p.eta ∧ p.eta ≤ 4) (sk : PrivateKey) (s1 s2 t0 : List Poly) (hsk : SkOf m p sk s1 s2 t0) (aHat : List (List Poly))
    (hA : MatIn p.k p.l aHat) (mu rhoPP : List Nat) (kappa : Int) (hkap : 0 ≤ kappa ∧ kappa + p.l ≤ 65536) :
    Sim (fun r => pure (centerRes r)) (AttemptOk p) (signAttempt m O false p sk aHat mu rhoPP kappa)
      (attemptSpec m O p s1 s2 t0 aHat mu rhoPP kappa) := by
  have hg1 := cfg.sig.gamma1_gt
  have hl7 := cfg.l7
  have hbeta := cfg.beta
  have hgg := cfg.G2
  unfold signAttempt attemptSpec attemptSpec.zw3L
  refine Sim.bind (NoPanic.of_ok (expandMask_ok m O hO p blz cfg.sig rhoPP kappa hkap (by omega))) fun y hy => ?_
  have hy' := hy.mono (lo' := -524288) (hi' := 524288) (by omega) (by omega)
  obtain ⟨yh, hyh, hmv, hinv, hw⟩ := commit_spec m hA hl7 hy'
  refine Sim.step hyh ?_
  refine Sim.step hmv ?_
  refine Sim.step hinv ?_
  refine Sim.step (hw.mapM₂_eq (g := Spec.highBits p.gamma2) fun x hx => high_bits_eq m p.gamma2 x hgg (by omega) (by omega)) ?_
  obtain ⟨w1t, hw1t⟩ := w1Encode_ok m p cfg.g2 _ (hw.map₂ fun x _ => (K.G2.rnd hgg).highBits_range x)
  refine Sim.step₂ hw1t ?_
  refine Sim.bind (sampleInBall_np m O hO false p.tau _ cfg.tau) fun c (hc : PolyIn (-1) 1 c) => ?_
  have hc' := hc.mono (lo' := -524288) (hi' := 524288) (by omega) (by omega)
  obtain ⟨ch, hch, hchs, _⟩ := nttPoly_c m hc'
  obtain ⟨ecs1, hcs1⟩ := mulInv_spec m "ml_dsa.rs:sign_internal:c_hat*s1" hc' (hsk.v1.mono (by omega) (by omega)) hch hsk.n1
  obtain ⟨ecs2, hcs2⟩ := mulInv_spec m "ml_dsa.rs:sign_internal:c_hat*s2" hc' (hsk.v2.mono (by omega) (by omega)) hch hsk.n2
  obtain ⟨ect0, hct0⟩ := mulInv_spec m "ml_dsa.rs:sign_internal:c_hat*t0" hc' (hsk.v0.mono (by omega) (by omega)) hch hsk.n0
  refine Sim.step hchs ?_
  refine Sim.step (idx_eq _ [ch] 0 Nat.zero_lt_one) ?_
  refine Sim.step ecs1 ?_
  refine Sim.step ecs2 ?_
  -- z (uncentred in the crate; its centred norm is the norm of the specification's z), r0
  have vz := hy'.zipWith₂ (lo' := -8380416) (hi' := 8380416) (g := fun a b => pr32 (a + b)) hcs1 fun a b ha hb => by
    have := pr32_spec (a + b) (by omega) (by omega); omega
  have vr0 := hw.zipWith₂ (lo' := -299999) (hi' := 299999) (g := fun a b => Spec.lowBits p.gamma2 (a - b)) hcs2 fun a b _ _ => by
    have := lowBits_range p.gamma2 (a - b) hgg; omega
  have hzmap : (List.zipWith (fun yp cp => List.zipWith (fun a b => pr32 (a + b)) yp cp) y (s1.map (cmul c))).map (fun q => q.map (modpm Q)) =
      List.zipWith (fun yp cp => List.zipWith (fun a b => modpm Q (a + b)) yp cp) y (s1.map (cmul c)) := by
    simp only [List.map_zipWith]
    exact hy'.zipWith₂_congr hcs1 fun a b ha hb => modpm_pr32 (a + b) (by omega) (by omega)
  have hznorm := normInfS_center (List.zipWith (fun yp cp => List.zipWith (fun a b => pr32 (a + b)) yp cp) y (s1.map (cmul c)))
  rw [hzmap] at hznorm
  obtain ⟨_, znb, _⟩ := normInfS_spec (List.zipWith (fun yp cp => List.zipWith (fun a b => pr32 (a + b)) yp cp) y (s1.map (cmul c)))
  refine Sim.step (hy'.zipWithM₂_eq hcs1 (g := fun a b => pr32 (a + b)) fun a b ha hb => zCoeff_eq m a b ha hb) ?_
  refine Sim.step (hw.zipWithM₂_eq hcs2 (g := fun a b => Spec.lowBits p.gamma2 (a - b)) fun a b ha hb =>
    (r0Coeff_eq m _ hgg a b ha hb).trans (by rw [lowBits_pr32 p.gamma2 (a - b) (by omega) (by omega)])) ?_
  refine Sim.step (hznorm ▸ infinityNorm_c m cfg.sig.l1 (vz.mono (by omega) (by omega))) ?_
  refine Sim.step (infinityNorm_c m hk.1 (vr0.mono (by omega) (by omega))) ?_
  refine Sim.step (arith_i32 _ _ _ (by omega) (by omega)) ?_
  refine Sim.step (arith_i32 _ _ _ (by omega) (by omega)) ?_
  refine Sim.ite (fun _ => Sim.ok none (fun _ _ _ h => nomatch h) rfl) fun hrej => ?_
  simp only [Bool.not_false, Bool.true_and, Bool.or_eq_true, decide_eq_true_eq, not_or, Int.not_le, ge_iff_le] at hrej
  have vh := hw.zw3L (lo' := 0) (hi' := 1) (g := fun a b c0 => if Spec.makeHint p.gamma2 (-c0) (a - b + c0) then (1 : Int) else 0) hcs2 hct0
    fun a b c0 _ _ _ => by split <;> simp
  have hoa := onesAll_le _ vh.bin
  rw [vh.1.1] at hoa
  refine Sim.step ect0 ?_
  refine Sim.step (hw.zipWith3M₂_eq hcs2 hct0 (g := fun a b c0 => if Spec.makeHint p.gamma2 (-c0) (a - b + c0) then (1 : Int) else 0)
    fun a b c0 ha hb hc0 =>
      (hintCoeff_eq m _ hgg a b c0 ha hb hc0).trans (by rw [makeHint_pr32 p.gamma2 c0 (a - b + c0) (by omega) (by omega)])) ?_
  rw [if_neg Bool.false_ne_true]
  refine Sim.step (infinityNorm_c m hk.1 (hct0.mono (by omega) (by omega))) ?_
  refine Sim.step ((hsum_eq m _ 0 vh.bin (by omega) (by omega)).trans (by rw [Int.zero_add])) ?_
  refine Sim.ite (fun _ => Sim.ok none (fun _ _ _ h => nomatch h) rfl) fun hrej2 => ?_
  simp only [Bool.or_eq_true, decide_eq_true_eq, not_or, Int.not_le, Int.not_lt, gt_iff_lt, ge_iff_le] at hrej2
  refine Sim.ok _ (fun ct' z' h' heq => ?_) (by rw [centerRes, Option.map_some, hzmap])
  simp only [Option.some.injEq, Prod.mk.injEq] at heq
  obtain ⟨rfl, rfl, rfl⟩ := heq
  exact ⟨hO.hlen _ _, vz.mono (by omega) (by omega), fun q hq e he => by have := znb q hq e he; omega, vh, by omega⟩

/-- the rejection loop of Algorithm 7 over `attemptSpec`; `kappa` is the 16-bit counter stepped by `l` -/
def loopSpec (m : Mode) (O : Oracles) (p : ParamSet) (s1 s2 t0 : List Poly) (aHat : List (List Poly)) (mu rhoPP : List Nat) :
    Nat → Int → Nat → M (List Nat × List Poly × List Poly × Nat)
  | 0, _, _ => throw (Fault.fuel "ml_dsa.rs:sign_internal:loop")
  | fuel + 1, kappa, it => do
    match ← attemptSpec m O p s1 s2 t0 aHat mu rhoPP kappa with
    | some (c, z, h) => pure (c, z, h, it + 1)
    | none =>
      if p.l > 65535 then throw (Fault.expect "ml_dsa.rs:sign_internal:u16::try_from(L)") else
      let k' ← arith .u16 m "ml_dsa.rs:sign_internal:kappa_ctr+=L" (kappa + Int.ofNat p.l)
      loopSpec m O p s1 s2 t0 aHat mu rhoPP fuel k' (it + 1)

/-- Algorithm 7 (ML-DSA.Sign_internal) with exact arithmetic, on the vectors `(s1, s2, t0)` a private key represents -/
def signSpec (m : Mode) (O : Oracles) (p : ParamSet) (fuel : Nat) (rho key tr : List Nat) (s1 s2 t0 : List Poly)
    (msg ctx oid phm rnd : List Nat) (nist : Bool) : M SignOut := do
  let aHat ← expandA m O false p rho
  let mu := muOf O domPure_sign domHash_sign tr msg ctx oid phm nist
  let rhoPP := O.h (key ++ rnd ++ mu) 64
  let (cTilde, z, h, it) ← loopSpec m O p s1 s2 t0 aHat mu rhoPP fuel 0 0
  let sig ← sigEncode m false p cTilde z h
  pure { sig := sig, iters := it }

def centerLoop (r : List Nat × List Poly × List Poly × Nat) : List Nat × List Poly × List Poly × Nat :=
  (r.1, r.2.1.map (fun q => q.map (modpm Q)), r.2.2.1, r.2.2.2)

theorem signLoop_sim (m : Mode) (O : Oracles) (hO : OracleOk O) (p : ParamSet) (blz : Nat) (cfg : VerCfg p blz) (hk : 1 ≤ p.k ∧ p.k ≤ 8)
    (he : 0 ≤ p.eta ∧ p.eta ≤ 4) (sk : PrivateKey) (s1 s2 t0 : List Poly) (hsk : SkOf m p sk s1 s2 t0) (aHat : List (List Poly))
    (hA : MatIn p.k p.l aHat) (mu rhoPP : List Nat) :
    ∀ (fuel : Nat) (kappa : Int) (it : Nat), 0 ≤ kappa → kappa + fuel * p.l ≤ 65535 →
      Sim (fun r => pure (centerLoop r)) (fun r => AttemptOk p (some (r.1, r.2.1, r.2.2.1)))
        (signLoop m O false p sk aHat mu rhoPP fuel kappa it) (loopSpec m O p s1 s2 t0 aHat mu rhoPP fuel kappa it) := by
  intro fuel
  induction fuel with
  | zero => intro kappa it _ _; exact ⟨Or.inr ⟨_, rfl⟩, rfl⟩
  | succ fuel ih =>
    intro kappa it hk0 hroom
    have hmul : ((fuel + 1 : Nat) : Int) * p.l = fuel * p.l + p.l := by rw [Int.natCast_add, Int.add_mul]; simp
    have hfl : (0:Int) ≤ (fuel : Int) * p.l := Int.mul_nonneg (Int.natCast_nonneg _) (Int.natCast_nonneg _)
    have hl0 : (0:Int) ≤ Int.ofNat p.l := Int.natCast_nonneg _
    unfold signLoop loopSpec
    refine Sim.comp (signAttempt_sim m O hO p blz cfg hk he sk s1 s2 t0 hsk aHat hA mu rhoPP kappa ⟨hk0, by omega⟩) fun r hr => ?_
    rw [pure_eq, ok_bind]
    cases r with
    | some t =>
      obtain ⟨c, z, h⟩ := t
      exact Sim.ok _ hr rfl
    | none =>
      simp only [centerRes, Option.map_none]
      rw [if_neg (by omega), if_neg (by omega)]
      have hk' : arith .u16 m "ml_dsa.rs:sign_internal:kappa_ctr+=L" (kappa + Int.ofNat p.l) = .ok (kappa + Int.ofNat p.l) :=
        arith_eq _ _ _ _ (by simp only [IT.lo]; omega) (by simp only [IT.hi]; show kappa + (p.l : Int) ≤ 65535; omega)
      rw [hk', ok_bind, ok_bind]
      exact ih (kappa + Int.ofNat p.l) (it + 1) (by omega) (by show kappa + (p.l : Int) + fuel * p.l ≤ 65535; omega)

/-- `fuel * l ≤ 65535`: the u16 counter `kappa` has room -/
theorem signInternal_sim (m : Mode) (O : Oracles) (hO : OracleOk O) (p : ParamSet) (blz : Nat) (cfg : VerCfg p blz) (hk : 1 ≤ p.k ∧ p.k ≤ 8)
    (he : 0 ≤ p.eta ∧ p.eta ≤ 4) (fuel : Nat) (hfuel : fuel * p.l ≤ 65535) (sk : PrivateKey) (s1 s2 t0 : List Poly) (hsk : SkOf m p sk s1 s2 t0)
    (msg ctx oid phm rnd : List Nat) (nist : Bool) :
    Sim pure (fun _ => True) (signInternal m O false p fuel sk msg ctx oid phm rnd nist)
      (signSpec m O p fuel sk.rho sk.key sk.tr s1 s2 t0 msg ctx oid phm rnd nist) := by
  unfold signInternal signSpec
  refine Sim.bind (expandA_np m O hO false p sk.rho hsk.rho) fun aHat hA => ?_
  simp only []
  have hfl : ((fuel * p.l : Nat) : Int) ≤ 65535 := Int.ofNat_le.mpr hfuel
  rw [Int.natCast_mul] at hfl
  refine Sim.comp (signLoop_sim m O hO p blz cfg hk he sk s1 s2 t0 hsk aHat hA _ _ fuel 0 0 (by omega) (by omega)) fun r hr => ?_
  obtain ⟨ct, z, h, it⟩ := r
  obtain ⟨c1, c2, c3, c4, c5⟩ := hr ct z h rfl
  rw [pure_eq, ok_bind]
  simp only [centerLoop]
  rw [c2.mapM₂_eq (g := modpm Q) fun e he' => center_mod_eq m e (by omega) (by omega), ok_bind]
  have vzm : VecIn p.l (-(p.gamma1 - 1)) p.gamma1 (z.map fun q => q.map (modpm Q)) :=
    .of_polys (by rw [List.length_map]; exact c2.1.1) fun q hq => by
      obtain ⟨q0, h0, rfl⟩ := List.mem_map.mp hq
      refine ⟨by rw [List.length_map]; exact c2.1.2 q0 h0, fun x hx => ?_⟩
      obtain ⟨e, he', rfl⟩ := List.mem_map.mp hx
      exact c3 q0 h0 e he'
  rw [sigEncode_is_algorithm_26 m p blz cfg.sig ct _ h c1 vzm.1 vzm.2 c4.1 c4.bin c5]
  exact Sim.refl (NoPanic.ok _ trivial)

theorem signInternal_eq_spec (m : Mode) (O : Oracles) (hO : OracleOk O) (p : ParamSet) (blz : Nat) (cfg : VerCfg p blz) (hk : 1 ≤ p.k ∧ p.k ≤ 8)
    (he : 0 ≤ p.eta ∧ p.eta ≤ 4) (fuel : Nat) (hfuel : fuel * p.l ≤ 65535) (sk : PrivateKey) (s1 s2 t0 : List Poly) (hsk : SkOf m p sk s1 s2 t0)
    (msg ctx oid phm rnd : List Nat) (nist : Bool) :
    signInternal m O false p fuel sk msg ctx oid phm rnd nist = signSpec m O p fuel sk.rho sk.key sk.tr s1 s2 t0 msg ctx oid phm rnd nist :=
  (bind_pure _).symm.trans (signInternal_sim m O hO p blz cfg hk he fuel hfuel sk s1 s2 t0 hsk msg ctx oid phm rnd nist).2

end Fips204.Impl
