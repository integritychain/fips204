import Fips204.Impl.MlDsa
import Fips204.Lemmas.NttAlg
import Fips204.Lemmas.MatVec
/-! The NTT-domain representation of key material round-trips exactly: what is read back from a stored form is the canonical vector
    (`stored_invNtt`), so `unMontCentered (nttMont s) = s` for every vector of small polynomials, and the verifier precompute of `t1`
    is a stored form of `t1 2^13`. -/
namespace Fips204.Impl
open Fips204 Fips204.Gen Fips204.K

theorem invNttPoly_of_nttS (m : Mode) (u ws : List Int) (hl : ws.length = 256) (hc : CongL u (nttS 8 1 ws)) (hu : Bnd 2143289343 u) :
    ∃ r, invNttPoly m u = .ok r ∧ Res r ∧ CongL r ws :=
  ⟨_, invNttPoly_eq m u _ hc hu, canon_can _, invC_nttS ws hl⟩

/-- what is read back from a stored form: `mont_reduce` takes off the factor `2^32`, and the inverse transform of anything congruent
    to `NTT(y)` is the canonical `y` -/
theorem stored_invNtt (m : Mode) {us ys : List Poly} (h : StoredV us ys) (hl : ∀ y ∈ ys, y.length = 256) :
    (us.mapM (fun p => p.mapM (mont_reduce m)) >>= invNtt m) = .ok (ys.map canon) := by
  have h1 : us.mapM (fun p => p.mapM (mont_reduce m)) = .ok (us.map fun p => p.map montv) :=
    mapM_pure _ _ us fun p hp => (mapM_mont_reduce m 16760833 (by decide) p p (h.bnd p hp) (CongL.refl p)).1
  have e : (ys.map (nttS 8 1)).map invC = ys.map canon := by
    rw [List.map_map]
    refine List.map_congr_left fun y hy => ?_
    rw [Function.comp, invC_nttS_eq y (hl y hy)]
  rw [h1, ok_bind, ← e]
  refine invNtt_eq m _ _ ⟨by rw [List.length_map, List.length_map, h.1], fun i i1 i2 => ?_⟩ fun w hw => ?_
  · rw [List.length_map] at i1 i2
    rw [List.getElem_map, List.getElem_map]
    exact (map_montv 16760833 (by decide) _ _ (h.2 i i1 i2).1 (h.2 i i1 i2).2).2.trans (map_rr_one _)
  · obtain ⟨p, hp, rfl⟩ := List.mem_map.mp hw
    exact (map_montv 16760833 (by decide) p p (h.bnd p hp) (CongL.refl p)).1.mono (by decide)

/-- re-centring the canonical representatives of a small polynomial gives it back -/
theorem recentre_canon (m : Mode) (s : Poly) (hs : Bnd 524288 s) :
    (canon s).mapM (fun x => if x > Int.tdiv Q 2 then arith .i32 m "lib.rs:into_bytes:x-Q" (x - Q) else pure x) = .ok s := by
  rw [mapM_pure _ (fun x => if x > 4190208 then x - 8380417 else x) (canon s) (fun x hx => by
      have := canon_can s x hx
      rw [show Int.tdiv Q 2 = 4190208 by decide]
      split
      · simp only [Q]
        exact arith_i32 _ _ _ (by omega) (by omega)
      · rfl), canon, List.map_map]
  refine congrArg _ ((List.map_congr_left fun x hx => ?_).trans (List.map_id s))
  have := hs x hx
  simp only [Function.comp, id]
  split <;> omega

/-- **`unMontCentered (nttMont s) = s`**: the NTT-domain form stored in a private key determines the vector exactly -/
theorem unMont_nttMont (m : Mode) {n : Nat} {lo hi : Int} {s sh : List Poly} (hs : VecIn n lo hi s) (h1 : -524288 ≤ lo) (h2 : hi ≤ 524288)
    (hn : nttMont m s = .ok sh) : unMontCentered m sh = .ok s := by
  have hp : ∀ p ∈ s, p.length = 256 ∧ Bnd 524288 p := fun p hp => (hs.mono h1 h2).poly hp
  obtain ⟨yh, hyh, byh⟩ := ntt_ok m s fun p hq => (hp p hq).2
  have hnb : nttMont m s = .ok (toMontP yh) := by
    unfold nttMont
    rw [hyh, ok_bind]
    exact toMont_eq m yh fun w hw => (byh w hw).mono (by decide)
  rw [ok_inj (hn.symm.trans hnb)]
  have hb := stored_invNtt m (toMontP_ntt_stored m s yh hyh fun p hq => (hp p hq).2) fun p hq => (hp p hq).1
  unfold unMontCentered
  rw [← bind_assoc, hb, ok_bind]
  refine (mapM_eq_ok _ _ _).mpr ⟨(List.length_map _).symm, fun i i1 i2 => ?_⟩
  rw [List.getElem_map]
  exact recentre_canon m _ (hp _ (List.getElem_mem i2)).2

/-- the verifier precompute of one polynomial of `t1`, the four passes of `precomputeT1` in one: a stored form of `t1 * 2^13` -/
theorem precompPoly_sem (m : Mode) (t : Poly) (ht : ∀ x ∈ t, 0 ≤ x ∧ x ≤ 1023) :
    ∃ a4, (nttPoly m t >>= fun a1 => a1.mapM (to_mont_coeff m) >>= fun a2 =>
        a2.mapM (fun x => mont_reduce m (IT.i64.wrap (x * 2 ^ D.toNat))) >>= fun a3 => a3.mapM (to_mont_coeff m)) = .ok a4 ∧
      Stored a4 (t.map (fun x => 8192 * x)) := by
  have e13 : (2:Int) ^ D.toNat = 8192 := by decide
  obtain ⟨a1, h1, b1, c1⟩ := nttPoly_sem m t t (CongL.refl t) (fun x hx => by have := ht x hx; omega)
  obtain ⟨h2, b2, c2⟩ := mapM_to_mont_coeff m a1 _ (b1.mono (by decide)) c1
  obtain ⟨a3, h3, b3, c3⟩ := mapM_sem (fun x => mont_reduce m (IT.i64.wrap (x * 2 ^ D.toNat))) (fun x => x * 8192 * RINV)
    (fun x => -16760833 ≤ x ∧ x ≤ 16760833) (fun y => -67000000 ≤ y ∧ y ≤ 67000000)
    (fun x hx => by
      have hw := wrap64_id (x * 8192) (by omega) (by omega)
      have hm := montv_spec (x * 8192) (by omega) (by omega)
      refine ⟨montv (x * 8192), by rw [e13, hw]; exact mont_reduce_eq m _ (by omega) (by omega), ⟨by omega, by omega⟩, fun s hxs => ?_⟩
      exact (montv_cg (x * 8192) (by omega) (by omega)).trans ((hxs.mul_right 8192).mul_right RINV)) (a1.map pr64s) _ c2 b2
  obtain ⟨h4, b4, c4⟩ := mapM_to_mont_coeff m a3 _ b3 c3
  refine ⟨_, by rw [h1, ok_bind, h2, ok_bind, h3, ok_bind, h4], b4, c4.trans ?_⟩
  rw [List.map_map, List.map_map]
  have hsc := (nttS_scale 8192 8 1 t).symm
  have step2 : CongL ((nttS 8 1 t).map (fun x => 8192 * x * 4294967296)) ((nttS 8 1 (t.map (fun x => 8192 * x))).map (fun x => x * 4294967296)) := by
    have := hsc.map (fun x => x * 4294967296) (fun x => x * 4294967296) (fun a b h => h.mul_right _)
    rw [List.map_map] at this
    exact this
  refine ((CongL.refl (nttS 8 1 t)).map _ (fun x => 8192 * x * 4294967296) (fun a b h => ?_)).trans step2
  simp only [Function.comp]
  have e : a * 4294967296 * 8192 * RINV * 4294967296 = (8192 * a * 4294967296) * 4294967296 * RINV := by grind
  rw [e]
  exact (rr_one _).trans ((h.mul_left 8192).mul_right _)

theorem precomputeT1_stored (m : Mode) (t1 : List Poly) (ht : ∀ q ∈ t1, ∀ x ∈ q, 0 ≤ x ∧ x ≤ 1023) :
    ∃ t1d2, precomputeT1 m t1 = .ok t1d2 ∧ StoredV t1d2 (t1.map (fun t => t.map (fun x => 8192 * x))) := by
  -- one fused pass per polynomial (`precompPoly_sem`), then split it into the four passes of `precomputeT1`
  obtain ⟨r, hr, lr, rr⟩ := mapM_rel (fun t => nttPoly m t >>= fun a1 => a1.mapM (to_mont_coeff m) >>= fun a2 =>
      a2.mapM (fun x => mont_reduce m (IT.i64.wrap (x * 2 ^ D.toNat))) >>= fun a3 => a3.mapM (to_mont_coeff m))
    (fun t a4 => Stored a4 (t.map (fun x => 8192 * x))) t1 (fun t h => precompPoly_sem m t (ht t h))
  obtain ⟨a1, h1, hr⟩ := mapM_fuse _ _ t1 r hr
  obtain ⟨a2, h2, hr⟩ := mapM_fuse _ _ a1 r hr
  obtain ⟨a3, h3, hr⟩ := mapM_fuse _ _ a2 r hr
  refine ⟨r, ?_, by rw [lr, List.length_map], fun i g1 g2 => ?_⟩
  · unfold precomputeT1 nttMont ntt toMont
    rw [h1, ok_bind, h2, ok_bind, h3, ok_bind]
    exact hr
  · rw [List.length_map] at g2
    rw [List.getElem_map]
    exact rr i g2 g1

end Fips204.Impl
