import Fips204.Lemmas.NttBounds
/-! `to_mont` and `mat_vec_mul` (DESIGN 3.2): inside their envelopes they are pure functions of their inputs (`toMont_eq`,
    `matVecMul_eq`: no `i32`/`i64` overflow and no failed assertion, in either build mode), the unreduced accumulation grows by less
    than q per term (`matP_bnd`), and the product respects congruence modulo q in the vector argument. -/
namespace Fips204.Impl
open Fips204 Fips204.Gen Fips204.K

/-- the value `mat_vec_mul_acc` returns -/
def accP (e a u : Int) : Int := e + montv (a * u)

theorem mat_vec_mul_acc_eq (m : Mode) (C e a u : Int) (he : -C ≤ e ∧ e ≤ C) (ha : 0 ≤ a ∧ a ≤ 8380416) (hu : -16760833 ≤ u ∧ u ≤ 16760833)
    (hfit : C + 8380416 ≤ 2147483647) : mat_vec_mul_acc m e a u = .ok (accP e a u) := by
  have hp := mul_bound a u 8380416 16760833 ha.1 ha.2 hu.1 hu.2
  have hm := montv_spec (a * u) (by omega) (by omega)
  unfold mat_vec_mul_acc accP
  simp only [arith_i64 _ _ _ (show (-9223372036854775808:Int) ≤ a * u by omega) (show a * u ≤ 9223372036854775807 by omega), ok_bind,
    mont_reduce_eq m _ (show (-17996808479301632:Int) ≤ a * u by omega) (show a * u ≤ 17996808470921215 by omega),
    arith_i32 _ _ _ (show (-2147483648:Int) ≤ e + montv (a * u) by omega) (show e + montv (a * u) ≤ 2147483647 by omega)]

theorem accP_bound (C e a u : Int) (he : -C ≤ e ∧ e ≤ C) (ha : 0 ≤ a ∧ a ≤ 8380416) (hu : -16760833 ≤ u ∧ u ≤ 16760833) :
    -(C + 8380416) ≤ accP e a u ∧ accP e a u ≤ C + 8380416 := by
  have hp := mul_bound a u 8380416 16760833 ha.1 ha.2 hu.1 hu.2
  have hm := montv_spec (a * u) (by omega) (by omega)
  unfold accP; omega

theorem zw3_accP_bnd {C : Int} {acc a u : List Int} (hacc : Bnd C acc) (ha : Res a) (hu : Bnd 16760833 u) :
    Bnd (C + 8380416) (zw3 accP acc a u) := by
  intro x hx
  obtain ⟨e, he, a', ha', u', hu', rfl⟩ := exists_of_mem_zw3 accP acc a u x hx
  exact accP_bound C e a' u' (hacc e he) (ha a' ha') (hu u' hu')

def rowP (l : List (Poly × Poly)) (acc : List Int) : List Int := l.foldl (fun acc au => zw3 accP acc au.1 au.2) acc

theorem rowP_nil (acc : List Int) : rowP [] acc = acc := rfl
theorem rowP_cons (au : Poly × Poly) (l : List (Poly × Poly)) (acc : List Int) : rowP (au :: l) acc = rowP l (zw3 accP acc au.1 au.2) := rfl

theorem rowP_acc_bnd : ∀ (l : List (Poly × Poly)) (acc : List Int) (C : Int), Bnd C acc → (∀ au ∈ l, Res au.1 ∧ Bnd 16760833 au.2) →
    Bnd (C + l.length * 8380416) (rowP l acc)
  | [], acc, C, h, _ => by simpa [rowP_nil] using h
  | au :: l, acc, C, h, hl => by
    have hb := zw3_accP_bnd h (hl au (List.mem_cons_self ..)).1 (hl au (List.mem_cons_self ..)).2
    have := rowP_acc_bnd l _ _ hb (fun x hx => hl x (List.mem_cons_of_mem _ hx))
    intro x hx
    have := this x hx
    simp only [List.length_cons, Int.natCast_succ]
    omega

theorem rowFold_eq (m : Mode) : ∀ (l : List (Poly × Poly)) (acc : List Int) (C : Int), Bnd C acc →
    C + l.length * 8380416 ≤ 2147483647 → (∀ au ∈ l, Res au.1 ∧ Bnd 16760833 au.2) →
    l.foldlM (fun acc au => zipWith3M (mat_vec_mul_acc m) acc au.1 au.2) acc = .ok (rowP l acc) := by
  intro l
  induction l with
  | nil => intro acc C _ _ _; rfl
  | cons au l ih =>
    intro acc C hacc hfit hl
    have hlen : ((au :: l).length : Int) = (l.length : Int) + 1 := by simp
    rw [hlen] at hfit
    obtain ⟨h1, h2⟩ := hl au (List.mem_cons_self ..)
    have hstep := zipWith3M_pure (mat_vec_mul_acc m) accP (fun e => -C ≤ e ∧ e ≤ C) (fun a => 0 ≤ a ∧ a ≤ 8380416)
      (fun u => -16760833 ≤ u ∧ u ≤ 16760833) (fun e a u he ha hu => mat_vec_mul_acc_eq m C e a u he ha hu (by omega)) acc au.1 au.2 hacc h1 h2
    rw [List.foldlM_cons, hstep, ok_bind,
      ih _ (C + 8380416) (zw3_accP_bnd hacc h1 h2) (by omega) (fun x hx => hl x (List.mem_cons_of_mem _ hx)), rowP_cons]

/-- `67000000` is a round number between the forward transform's envelope 34 284 028 and the documented bound 67 058 539 of
    `partial_reduce64` -/
theorem map_pr64s (a N : List Int) (ba : Bnd 67000000 a) (ca : CongL a N) :
    Bnd 16760833 (a.map pr64s) ∧ CongL (a.map pr64s) (N.map (fun x => x * 4294967296)) := by
  refine ⟨fun y hy => ?_, ca.map_on _ _ _ ba (fun x s hx h => (pr64s_cg x (by omega) (by omega)).trans (h.mul_right _))⟩
  obtain ⟨x, hx, rfl⟩ := List.mem_map.mp hy
  have := (pr64s_spec x (by have := ba x hx; omega) (by have := ba x hx; omega)).2
  omega

theorem mapM_to_mont_coeff (m : Mode) (a N : List Int) (ba : Bnd 67000000 a) (ca : CongL a N) :
    a.mapM (to_mont_coeff m) = .ok (a.map pr64s) ∧ Bnd 16760833 (a.map pr64s) ∧
      CongL (a.map pr64s) (N.map (fun x => x * 4294967296)) :=
  ⟨mapM_pure _ _ a (fun x hx => to_mont_coeff_eq m x (by have := ba x hx; omega) (by have := ba x hx; omega)), map_pr64s a N ba ca⟩

theorem map_montv (B : Int) (hB : B ≤ 17996808470921215) (a N : List Int) (ba : Bnd B a) (ca : CongL a N) :
    Bnd 8380416 (a.map montv) ∧ CongL (a.map montv) (N.map (fun x => x * RINV)) := by
  refine ⟨fun y hy => ?_, ca.map_on _ _ _ ba (fun x s hx h => (montv_cg x (by omega) (by omega)).trans (h.mul_right _))⟩
  obtain ⟨x, hx, rfl⟩ := List.mem_map.mp hy
  have := (montv_spec x (by have := ba x hx; omega) (by have := ba x hx; omega)).2
  omega

theorem mapM_mont_reduce (m : Mode) (B : Int) (hB : B ≤ 17996808470921215) (a N : List Int) (ba : Bnd B a) (ca : CongL a N) :
    a.mapM (mont_reduce m) = .ok (a.map montv) ∧ Bnd 8380416 (a.map montv) ∧ CongL (a.map montv) (N.map (fun x => x * RINV)) :=
  ⟨mapM_pure _ _ a (fun x hx => mont_reduce_eq m x (by have := ba x hx; omega) (by have := ba x hx; omega)), map_montv B hB a N ba ca⟩

def toMontP (u : List Poly) : List Poly := u.map (fun p => p.map pr64s)

theorem toMont_eq (m : Mode) (u : List Poly) (hu : ∀ w ∈ u, Bnd 67000000 w) : toMont m u = .ok (toMontP u) := by
  unfold toMont toMontP
  exact mapM_pure _ _ u (fun p hp => (mapM_to_mont_coeff m p p (hu p hp) (CongL.refl p)).1)

theorem toMontP_bnd (u : List Poly) (hu : ∀ w ∈ u, Bnd 67000000 w) : ∀ w ∈ toMontP u, Bnd 16760833 w := by
  intro w hw
  obtain ⟨p, hp, rfl⟩ := List.mem_map.mp hw
  exact (map_pr64s p p (hu p hp) (CongL.refl p)).1

/-- `u` is a stored (`to_mont`) form of the transform of `y`: inside `mont_reduce`'s domain, and `2^32 * NTT(y)` modulo q.
    The private-key vectors, the verifier's precompute and the vector `mat_vec_mul` multiplies by are all of this form,
    and the three pipelines use nothing else of them. -/
def Stored (u y : Poly) : Prop := Bnd 16760833 u ∧ CongL u ((nttS 8 1 y).map (fun x => x * 4294967296))

def StoredV (us ys : List Poly) : Prop := us.length = ys.length ∧ ∀ i (h1 : i < us.length) (h2 : i < ys.length), Stored us[i] ys[i]

theorem StoredV.uncons {u y : Poly} {us ys : List Poly} (h : StoredV (u :: us) (y :: ys)) : Stored u y ∧ StoredV us ys :=
  ⟨h.2 0 (Nat.zero_lt_succ _) (Nat.zero_lt_succ _), Nat.succ.inj h.1, fun i h1 h2 => h.2 (i + 1) (Nat.succ_lt_succ h1) (Nat.succ_lt_succ h2)⟩

theorem StoredV.bnd {us ys : List Poly} (h : StoredV us ys) : ∀ u ∈ us, Bnd 16760833 u := fun u hu => by
  obtain ⟨i, hi, rfl⟩ := List.getElem_of_mem hu
  exact (h.2 i hi (h.1 ▸ hi)).1

theorem toMontP_ntt_stored (m : Mode) (ys yh : List Poly) (h : ys.mapM (nttPoly m) = .ok yh) (hy : ∀ y ∈ ys, Bnd 524288 y) :
    StoredV (toMontP yh) ys := by
  obtain ⟨hl, hi⟩ := (mapM_eq_ok _ ys yh).mp h
  refine ⟨by rw [toMontP, List.length_map, hl], fun i h1 h2 => ?_⟩
  have h1' : i < yh.length := by rw [toMontP, List.length_map] at h1; exact h1
  obtain ⟨a, ha, ba, ca⟩ := nttPoly_sem m ys[i] ys[i] (CongL.refl _) (hy _ (List.getElem_mem h2))
  obtain rfl := ok_inj ((hi i h2 h1').symm.trans ha)
  have hm := mapM_to_mont_coeff m yh[i] _ (ba.mono (by decide)) ca
  show Stored ((yh.map (fun p => p.map pr64s))[i]'(by rw [List.length_map]; exact h1')) ys[i]
  rw [List.getElem_map]
  exact hm.2

/-- `to_mont` on the forward transform's envelope: no fault, result strictly inside (-2q, 2q) -/
theorem toMont_ok (m : Mode) (v : List (List Int)) (hv : ∀ w ∈ v, Bnd 67000000 w) :
    ∃ r, toMont m v = .ok r ∧ ∀ w' ∈ r, Bnd 16760833 w' :=
  ⟨_, toMont_eq m v hv, toMontP_bnd v hv⟩

def matP (a : List (List Poly)) (u : List Poly) : List Poly := a.map (fun row => rowP (row.zip (toMontP u)) zeroPoly)

/-- `n ≤ 200` is a round number far above the crate's 7: any `n` up to 254 keeps `n (q - 1) + q` inside the domain of
    `partial_reduce32` -/
theorem matVecMul_eq (m : Mode) (a : List (List Poly)) (u : List Poly) (n : Nat)
    (ha : ∀ row ∈ a, row.length ≤ n ∧ ∀ p ∈ row, Res p) (hu : ∀ w ∈ u, Bnd 67000000 w) (hn : n ≤ 200) :
    matVecMul m a u = .ok (matP a u) := by
  unfold matVecMul matP
  rw [toMont_eq m u hu, ok_bind]
  refine mapM_pure _ _ a (fun row hrow => ?_)
  obtain ⟨hlen, hres⟩ := ha row hrow
  have hzl : ((row.zip (toMontP u)).length : Int) ≤ 200 := by
    have := List.length_zip (l₁ := row) (l₂ := toMontP u)
    omega
  exact rowFold_eq m (row.zip (toMontP u)) zeroPoly 0 zeroPoly_bnd (by omega)
    (fun au hau => ⟨hres au.1 (List.of_mem_zip hau).1, toMontP_bnd u hu au.2 (List.of_mem_zip hau).2⟩)

theorem rowP_bnd (row um : List Poly) (n : Nat) (hrow : ∀ p ∈ row, Res p) (hum : ∀ w ∈ um, Bnd 16760833 w) (hl : row.length ≤ n) :
    Bnd (n * 8380416) (rowP (row.zip um) zeroPoly) := by
  have hzl : ((row.zip um).length : Int) ≤ n := by
    have := List.length_zip (l₁ := row) (l₂ := um)
    omega
  refine (rowP_acc_bnd _ _ 0 zeroPoly_bnd (fun au hau => ⟨hrow _ (List.of_mem_zip hau).1, hum _ (List.of_mem_zip hau).2⟩)).mono ?_
  have : ((row.zip um).length : Int) * 8380416 ≤ n * 8380416 := Int.mul_le_mul_of_nonneg_right hzl (by decide)
  omega

theorem matP_bnd (a : List (List Poly)) (u : List Poly) (n : Nat) (ha : ∀ row ∈ a, row.length ≤ n ∧ ∀ p ∈ row, Res p)
    (hu : ∀ w ∈ u, Bnd 67000000 w) : ∀ w ∈ matP a u, Bnd (n * 8380416) w := by
  intro w hw
  obtain ⟨row, hrow, rfl⟩ := List.mem_map.mp hw
  exact rowP_bnd row _ n (ha row hrow).2 (toMontP_bnd u hu) (ha row hrow).1

theorem matVecMul_ok (m : Mode) (a : List (List Poly)) (u : List Poly) (n : Nat)
    (ha : ∀ row ∈ a, row.length ≤ n ∧ ∀ p ∈ row, Res p) (hu : ∀ w ∈ u, Bnd 67000000 w) (hn : n ≤ 200) :
    ∃ r, matVecMul m a u = .ok r ∧ ∀ w ∈ r, Bnd (n * 8380416) w :=
  ⟨_, matVecMul_eq m a u n ha hu hn, matP_bnd a u n ha hu⟩

/-- the value of the subtraction step on one coefficient -/
def diffP (a c t : Int) : Int := a - montv (c * t)

theorem diff_eq (m : Mode) (A a c t : Int) (hA : A + 8380416 ≤ 2143289343) (ha : -A ≤ a ∧ a ≤ A) (hc : -34284028 ≤ c ∧ c ≤ 34284028)
    (ht : -16760833 ≤ t ∧ t ≤ 16760833) :
    (arith .i64 m "ml_dsa.rs:verify_internal:c_hat*t1" (c * t) >>= fun pr => mont_reduce m pr >>= fun r =>
        arith .i32 m "ml_dsa.rs:verify_internal:az-ct1" (a - r)) = .ok (diffP a c t) ∧
      -2143289343 ≤ diffP a c t ∧ diffP a c t ≤ 2143289343 := by
  obtain ⟨e, b, _⟩ := montmul_eq m "ml_dsa.rs:verify_internal:c_hat*t1" c t 34284028 16760833 hc ht (by decide)
  rw [← bind_assoc, e, ok_bind]
  unfold diffP
  exact ⟨arith_i32 _ _ _ (by omega) (by omega), by omega⟩

theorem diffRow (m : Mode) (A : Int) (hA : A + 8380416 ≤ 2143289343) (az ch t : List Int) (baz : Bnd A az) (bch : Bnd 34284028 ch)
    (bt : Bnd 16760833 t) :
    zipWith3M (fun a c t => do
        let pr ← arith .i64 m "ml_dsa.rs:verify_internal:c_hat*t1" (c * t)
        let r ← mont_reduce m pr
        arith .i32 m "ml_dsa.rs:verify_internal:az-ct1" (a - r)) az ch t = .ok (zw3 diffP az ch t) ∧
      Bnd 2143289343 (zw3 diffP az ch t) := by
  refine ⟨zipWith3M_pure _ diffP _ _ _ (fun a c t ha hc ht => (diff_eq m A a c t hA ha hc ht).1) az ch t baz bch bt, fun x hx => ?_⟩
  obtain ⟨a, ha, c, hc, t', ht, rfl⟩ := exists_of_mem_zw3 diffP _ _ _ x hx
  exact (diff_eq m A a c t' hA (baz a ha) (bch c hc) (bt t' ht)).2

/-- `e ∘ mont_reduce(a * u)` on three lists, for `∘` = `+` (`mat_vec_mul`'s accumulation) or `-` (the verifier's `az - c t1`): with
    `u` in Montgomery form (`u ≡ y 2^32`) it is `E ∘ (A Y)` modulo q -/
theorem zw3_mont_cong (op : Int → Int → Int) (hop : ∀ {a a' b b'}, cg a a' → cg b b' → cg (op a b) (op a' b')) (A : Int)
    (hA : A * 16760833 ≤ 17996806323437568) (e E a NA u NY : List Int) (h1 : CongL e E) (h2 : CongL a NA)
    (h3 : CongL u (NY.map (fun x => x * 4294967296))) (ba : Bnd A a) (bu : Bnd 16760833 u) :
    CongL (zw3 (fun e a u => op e (montv (a * u))) e a u) (List.zipWith op E (List.zipWith (fun x y => x * y) NA NY)) := by
  have l3 := h3.1
  rw [List.length_map] at l3
  refine ⟨by rw [zw3_length, List.length_zipWith, List.length_zipWith, h1.1, h2.1, l3], fun i g1 g2 => ?_⟩
  rw [zw3_length] at g1
  obtain ⟨ie, g1⟩ := Nat.lt_min.mp g1
  obtain ⟨ia, iu⟩ := Nat.lt_min.mp g1
  have iA : i < NA.length := h2.1 ▸ ia
  have iY : i < NY.length := l3 ▸ iu
  rw [zw3_getElem, List.getElem_zipWith, List.getElem_zipWith]
  have hai := ba a[i] (List.getElem_mem ia)
  have hui := bu u[i] (List.getElem_mem iu)
  have hp := mul_bound_sym a[i] u[i] A 16760833 hai.1 hai.2 hui.1 hui.2
  have c3 : cg u[i] (NY[i] * 4294967296) := by
    have := h3.2 i iu (by rw [List.length_map]; exact iY)
    rwa [List.getElem_map] at this
  -- `montv (a u) ≡ a u 2^-32 ≡ A (Y 2^32) 2^-32 ≡ A Y`
  refine hop (h1.2 i ie (h1.1 ▸ ie)) ?_
  exact (montv_cg (a[i] * u[i]) (by omega) (by omega)).trans (((((h2.2 i ia iA).mul_right _).trans (c3.mul_left _)).mul_right RINV).trans
    ((cg.of_eq (Int.mul_assoc ..)).trans ((rr_one NY[i]).mul_left NA[i])))

theorem acc_step_cong (acc NP ah NA um NY : List Int) (h1 : CongL acc NP) (h2 : CongL ah NA) (h3 : CongL um (NY.map (fun x => x * 4294967296)))
    (ba : Res ah) (bu : Bnd 16760833 um) :
    CongL (zw3 accP acc ah um) (List.zipWith (fun a b => a + b) NP (List.zipWith (fun x y => x * y) NA NY)) :=
  zw3_mont_cong (fun a b => a + b) cg.add 8380416 (by decide) _ _ _ _ _ _ h1 h2 h3 ba.bnd bu

theorem diff_step_cong (az NAZ ch NC t NT : List Int) (h1 : CongL az NAZ) (h2 : CongL ch NC) (h3 : CongL t (NT.map (fun x => x * 4294967296)))
    (bc : Bnd 34284028 ch) (bt : Bnd 16760833 t) :
    CongL (zw3 diffP az ch t) (List.zipWith (fun a b => a - b) NAZ (List.zipWith (fun x y => x * y) NC NT)) :=
  zw3_mont_cong (fun a b => a - b) cg.sub 34284028 (by decide) _ _ _ _ _ _ h1 h2 h3 bc bt

theorem zw3_cong (a : List Int) (ha : Res a) (acc acc' u u' : List Int) (hacc : CongL acc acc') (hu : CongL u u')
    (bu : Bnd 16760833 u) (bu' : Bnd 16760833 u') : CongL (zw3 accP acc a u) (zw3 accP acc' a u') := by
  -- both sides are `acc' + a (u' 2^-32)`: read `u'` as the Montgomery form of `u' 2^-32`
  have hm : CongL u' ((u'.map (fun x => x * RINV)).map (fun x => x * 4294967296)) := by
    rw [List.map_map]
    refine ⟨by simp, fun i g1 g2 => ?_⟩
    rw [List.getElem_map]
    exact ((cg.of_eq (Int.mul_right_comm ..)).trans (rr_one u'[i])).symm
  exact (acc_step_cong _ _ _ _ _ _ hacc (CongL.refl a) (hu.trans hm) ha bu).trans
    (acc_step_cong _ _ _ _ _ _ (CongL.refl acc') (CongL.refl a) hm ha bu').symm

theorem rowP_cong : ∀ (row um um' : List Poly) (acc acc' : List Int), (∀ p ∈ row, Res p) → CongV um um' →
    (∀ w ∈ um, Bnd 16760833 w) → (∀ w ∈ um', Bnd 16760833 w) → CongL acc acc' →
    CongL (rowP (row.zip um) acc) (rowP (row.zip um') acc') := by
  intro row
  induction row with
  | nil => intro um um' acc acc' _ _ _ _ h; exact h
  | cons r rs ih =>
    intro um um' acc acc' hr hc b b' h
    cases um with
    | nil => rw [List.eq_nil_of_length_eq_zero hc.1.symm]; exact h
    | cons w ws =>
      cases um' with
      | nil => have := hc.1; simp at this
      | cons w' ws' =>
        obtain ⟨c0, ct⟩ := hc.uncons
        rw [List.zip_cons_cons, List.zip_cons_cons, rowP_cons, rowP_cons]
        exact ih ws ws' _ _ (fun p hp => hr p (List.mem_cons_of_mem _ hp)) ct (fun x hx => b x (List.mem_cons_of_mem _ hx))
          (fun x hx => b' x (List.mem_cons_of_mem _ hx))
          (zw3_cong r (hr r (List.mem_cons_self ..)) acc acc' w w' h c0 (b w (List.mem_cons_self ..)) (b' w' (List.mem_cons_self ..)))

theorem toMontP_cong (u u' : List Poly) (h : CongV u u') (b : ∀ w ∈ u, Bnd 67000000 w) (b' : ∀ w ∈ u', Bnd 67000000 w) :
    CongV (toMontP u) (toMontP u') := by
  refine ⟨by simp [toMontP, h.1], fun i h1 h2 => ?_⟩
  unfold toMontP at h1 h2 ⊢
  rw [List.length_map] at h1 h2
  rw [List.getElem_map, List.getElem_map]
  exact (map_pr64s _ _ (b _ (List.getElem_mem h1)) (h.2 i h1 h2)).2.trans
    (map_pr64s _ _ (b' _ (List.getElem_mem h2)) (CongL.refl _)).2.symm

theorem matP_cong (a : List (List Poly)) (ha : ∀ row ∈ a, ∀ p ∈ row, Res p) (u u' : List Poly) (h : CongV u u')
    (b : ∀ w ∈ u, Bnd 67000000 w) (b' : ∀ w ∈ u', Bnd 67000000 w) : CongV (matP a u) (matP a u') := by
  have hc := toMontP_cong u u' h b b'
  unfold matP
  refine ⟨by simp, fun i h1 h2 => ?_⟩
  rw [List.length_map] at h1
  rw [List.getElem_map, List.getElem_map]
  exact rowP_cong a[i] _ _ _ _ (ha a[i] (List.getElem_mem _)) hc (toMontP_bnd u b) (toMontP_bnd u' b') (CongL.refl _)

end Fips204.Impl
