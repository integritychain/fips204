import Fips204.Lemmas.SignVerify
import Fips204.Lemmas.SpecKeygen
/-! Algorithm 7 as the standard writes it (`Spec/MlDsa.lean`).  The commitment `w = NTT⁻¹(Â ∘ NTT(y))` and the products `c s =
    NTT⁻¹(NTT(c) ∘ NTT(s))` (lines 12, 18, 19, 25) are what the exact-arithmetic specification `signSpec` computes (`commitS`;
    `cmul`: the negacyclic product); then one attempt, the rejection loop and `signSpec` against `Spec.signAttempt`,
    `Spec.signLoop`, `Spec.signInternal`. -/
namespace Fips204.Impl
open Fips204 Fips204.Gen Fips204.K

/-- line 12 of Algorithm 7 -/
theorem commitS_is_spec (aHat : List (List Poly)) (y : List Poly) :
    commitS aHat y = aHat.map (fun row => Spec.invNtt (Spec.rowTimes row (y.map Spec.ntt))) := by
  unfold commitS
  apply List.map_congr_left
  intro row _
  exact commitRow_is_spec row y

/-- lines 18, 19, 25 of Algorithm 7: the negacyclic product `c s` is `NTT⁻¹(NTT(c) ∘ NTT(s))` with the standard's transforms -/
theorem cmul_is_spec (c s : Poly) (lc : c.length = 256) (ls : s.length = 256) :
    cmul c s = Spec.invNtt (Spec.mulQ (Spec.ntt c) (Spec.ntt s)) := by
  unfold cmul
  have hs : invC (List.zipWith (fun x y => x * y) (nttS 8 1 c) (nttS 8 1 s)) = Spec.invNtt (Spec.mulQ (Spec.ntt c) (Spec.ntt s)) :=
    invC_is_spec ((nttS_is_spec 8 1 c c (CongL.refl c) (by decide)).zipWith (nttS_is_spec 8 1 s s (CongL.refl s) (by decide)) _ _
      (fun p q p' q' e1 e2 => (cg.mul e1 e2).mod_right))
  -- negMul c s  ≅  invC (nttS (negMul c s))  ≅  invC (nttS c ∘ nttS s)  =  the standard's
  rw [← hs]
  exact canon_eq_of_cong _ _ ((invC_nttS _ (negMul_length c s lc ls)).symm.trans (invC_cong _ _ (nttS_negMul c s lc ls))) (canon_can _)


theorem spec_expandMask_length (H : List Nat → Nat → List Nat) (c : Nat) (g : Int) (l : Nat) (rho : List Nat) (mu : Nat) :
    (Spec.expandMask H c g l rho mu).length = l ∧ ∀ q ∈ Spec.expandMask H c g l rho mu, q.length = 256 := by
  unfold Spec.expandMask
  refine ⟨by simp, fun q hq => ?_⟩
  obtain ⟨r, _, rfl⟩ := List.mem_map.mp hq
  unfold Spec.bitUnpack; rw [List.length_map, groups_length]

theorem onesAll_is_spec (h : List Poly) : onesAll h = Spec.countOnes h := rfl

theorem zw3L_is_spec (g : Int → Int → Int → Int) (a b c : List Poly) : attemptSpec.zw3L g a b c = Spec.zipWith3V g a b c := rfl

/-- **one attempt of the signing loop is lines 11-29 of FIPS 204 Algorithm 7 as written** (on the vectors a private key represents) -/
theorem attemptSpec_is_algorithm_7 (m : Mode) (O : Oracles) (hO : OracleOk O) (hP : OraclePrefix O) (p : ParamSet) (blz : Nat) (cfg : VerCfg p blz)
    (s1 s2 t0 : List Poly) (h1 : ∀ q ∈ s1, q.length = 256) (h2 : ∀ q ∈ s2, q.length = 256) (h0 : ∀ q ∈ t0, q.length = 256)
    (aHat : List (List Poly)) (hA : aHat.length = p.k ∧ ∀ row ∈ aHat, row.length = p.l ∧ ∀ q ∈ row, q.length = 256 ∧ Res q)
    (mu rhoPP : List Nat) (kappa : Nat) (hkap : kappa + p.l ≤ 65536) :
    Agrees (attemptSpec m O p s1 s2 t0 aHat mu rhoPP (kappa : Int))
      (Spec.signAttempt (specParams p) O.h (8 + 1360 * O.fuelScale) s1 s2 t0 aHat mu rhoPP kappa) := by
  have hl7 := cfg.l7
  unfold attemptSpec Spec.signAttempt specParams
  simp only [cfg.sig.blz_eq, cfg.w1Bits_eq]
  rw [expandMask_is_algorithm_34 m O hO hP p blz cfg.sig rhoPP kappa hkap (by omega), ok_bind]
  have shw := commitS_sh (MatIn.sh hA) (spec_expandMask_length O.h blz p.gamma1 p.l rhoPP kappa).2
  rw [commitS_is_spec] at shw ⊢
  have hW := shw.map₂_in (f := Spec.highBits p.gamma2) fun x => (K.G2.rnd cfg.G2).highBits_range x
  rw [w1Encode_is_algorithm_28 m p cfg.g2 _ hW.1 hW.2, ok_bind]
  simp only [ParamSet.lambdaDiv4]
  rw [sampleInBall_is_algorithm_29 m O hO p.tau _ cfg.tau]
  cases hsb : Spec.sampleInBall _ _ with
  | none => exact ⟨_, rfl⟩
  | some c =>
    have hc := spec_sampleInBall_bnd p.tau.toNat (by have := cfg.tau; omega) _ c hsb
    simp only [ofSpec, ok_bind]
    have ec : ∀ v : List Poly, (∀ q ∈ v, q.length = 256) →
        v.map (cmul c) = v.map (fun s => Spec.invNtt (Spec.mulQ (Spec.ntt c) (Spec.ntt s))) :=
      fun v hv => List.map_congr_left (fun s hs => cmul_is_spec c s hc.1 (hv s hs))
    rw [ec s1 h1, ec s2 h2, ec t0 h0]
    simp only [normInfS_is_spec, onesAll_is_spec, zw3L_is_spec]
    have hom : (p.omega.toNat : Int) = p.omega := Int.toNat_of_nonneg cfg.sig.om
    rw [hom]
    exact ite_rel Agrees (fun _ => rfl) fun _ => ite_rel Agrees (fun _ => rfl) fun _ => rfl


theorem loopSpec_is_algorithm_7 (m : Mode) (O : Oracles) (hO : OracleOk O) (hP : OraclePrefix O) (p : ParamSet) (blz : Nat) (cfg : VerCfg p blz)
    (s1 s2 t0 : List Poly) (h1 : ∀ q ∈ s1, q.length = 256) (h2 : ∀ q ∈ s2, q.length = 256) (h0 : ∀ q ∈ t0, q.length = 256)
    (aHat : List (List Poly)) (hA : aHat.length = p.k ∧ ∀ row ∈ aHat, row.length = p.l ∧ ∀ q ∈ row, q.length = 256 ∧ Res q)
    (mu rhoPP : List Nat) :
    ∀ (fuel kappa it : Nat), kappa + fuel * p.l ≤ 65535 →
      match Spec.signLoop (specParams p) O.h (8 + 1360 * O.fuelScale) s1 s2 t0 aHat mu rhoPP fuel kappa with
      | some r => ∃ it', loopSpec m O p s1 s2 t0 aHat mu rhoPP fuel (kappa : Int) it = .ok (r.1, r.2.1, r.2.2, it')
      | none => ∃ s, loopSpec m O p s1 s2 t0 aHat mu rhoPP fuel (kappa : Int) it = .error (.fuel s) := by
  intro fuel
  induction fuel with
  | zero => intro kappa it _; exact ⟨_, rfl⟩
  | succ fuel ih =>
    intro kappa it hroom
    have hmul : (fuel + 1) * p.l = fuel * p.l + p.l := by rw [Nat.add_mul, Nat.one_mul]
    have hatt := attemptSpec_is_algorithm_7 m O hO hP p blz cfg s1 s2 t0 h1 h2 h0 aHat hA mu rhoPP kappa (by omega)
    rw [Spec.signLoop]
    cases hsa : Spec.signAttempt (specParams p) O.h (8 + 1360 * O.fuelScale) s1 s2 t0 aHat mu rhoPP kappa with
    | none =>
      rw [hsa] at hatt
      obtain ⟨s, hs⟩ := hatt
      exact ⟨s, by rw [loopSpec, hs]; rfl⟩
    | some r =>
      rw [hsa] at hatt
      cases r with
      | some t => exact ⟨it + 1, by rw [loopSpec, show attemptSpec m O p s1 s2 t0 aHat mu rhoPP (kappa : Int) = .ok (some t) from hatt]; rfl⟩
      | none =>
        have hk' : arith .u16 m "ml_dsa.rs:sign_internal:kappa_ctr+=L" ((kappa : Int) + Int.ofNat p.l) = .ok (((kappa + p.l : Nat) : Int)) := by
          have e : (kappa : Int) + Int.ofNat p.l = ((kappa + p.l : Nat) : Int) := by simp
          rw [e]
          exact arith_eq _ _ _ _ (by simp only [IT.lo]; omega) (by simp only [IT.hi]; omega)
        rw [loopSpec, show attemptSpec m O p s1 s2 t0 aHat mu rhoPP (kappa : Int) = .ok none from hatt, ok_bind]
        simp only []
        rw [if_neg (by omega), hk', ok_bind]
        exact ih (kappa + p.l) (it + 1) (by omega)


/-- the signature bytes of the specification against a model result that also counts attempts -/
def AgreesSig (r : M SignOut) : Option (List Nat) → Prop
  | some sig => ∃ it, r = .ok { sig := sig, iters := it }
  | none => ∃ s, r = .error (.fuel s)

/-- **`signSpec` is Algorithm 7 as the standard writes it**, on the vectors a private-key struct represents -/
theorem signSpec_is_algorithm_7 (m : Mode) (O : Oracles) (hO : OracleOk O) (hP : OraclePrefix O) (p : ParamSet) (blz : Nat) (cfg : VerCfg p blz)
    (hk : 1 ≤ p.k ∧ p.k ≤ 8) (he : p.eta = 2 ∨ p.eta = 4) (fuel : Nat) (hfuel : fuel * p.l ≤ 65535)
    (sk : PrivateKey) (s1 s2 t0 : List Poly) (hsk : SkOf m p sk s1 s2 t0) (hok : SkOk p sk) (msg ctx oid phm rnd : List Nat) (nist : Bool) :
    AgreesSig (signSpec m O p fuel sk.rho sk.key sk.tr s1 s2 t0 msg ctx oid phm rnd nist)
      (Spec.signInternal (specParams p) O.h O.g (1680 * O.fuelScale) (8 + 1360 * O.fuelScale) fuel sk.rho sk.key sk.tr s1 s2 t0
        (Spec.formatted nist msg ctx oid phm) rnd) := by
  unfold signSpec Spec.signInternal
  rw [expandA_is_algorithm_32 m O hO p sk.rho hsk.rho, muOf_formatted O domPure_sign domHash_sign rfl rfl]
  simp only [specParams] at *
  cases hA' : Spec.expandA _ _ _ _ with
  | none => exact ⟨_, rfl⟩
  | some aHat =>
    have hA := spec_expandA_in _ p.k p.l sk.rho aHat hA'
    simp only [ofSpec]
    rw [ok_bind]
    have hloop := loopSpec_is_algorithm_7 m O hO hP p blz cfg s1 s2 t0 hsk.v1.1.2 hsk.v2.1.2 hsk.v0.1.2 aHat hA
      (O.h (sk.tr ++ Spec.formatted nist msg ctx oid phm) 64)
      (O.h (sk.key ++ rnd ++ O.h (sk.tr ++ Spec.formatted nist msg ctx oid phm) 64) 64) fuel 0 0 (by omega)
    simp only [specParams] at hloop
    have hcast : ((0 : Nat) : Int) = 0 := rfl
    rw [hcast] at hloop
    cases hsl : Spec.signLoop _ _ _ _ _ _ _ _ _ _ _ with
    | none =>
      rw [hsl] at hloop
      obtain ⟨s, hs⟩ := hloop
      exact ⟨s, by rw [hs]; rfl⟩
    | some r =>
      rw [hsl] at hloop
      obtain ⟨it', hit⟩ := hloop
      obtain ⟨c, z, h⟩ := r
      simp only [] at hit
      rw [hit, ok_bind]
      -- the accepted triple is inside the domain of `sigEncode`
      obtain ⟨kappa, hatt⟩ := loop_some_attempt m O p s1 s2 t0 aHat _ _ c z h it' fuel 0 0 hit
      obtain ⟨w1, w2, w3, w4, w5, w6⟩ := attempt_wf m O hO p cfg.beta.1 cfg.sig.om cfg.tau aHat s1 s2 t0
        (MatIn.sh hA) hsk.v1.1 hsk.v2.1 hsk.v0.1 _ _ kappa c z h hatt
      rw [sigEncode_is_algorithm_26 m p blz cfg.sig c z h w1 w2 w3 w4 w5 w6, ok_bind, cfg.sig.blz_eq]
      exact ⟨_, rfl⟩

theorem agreesApiSig_of (x : M SignOut) (o : Option (List Nat)) (h : AgreesSig x o) :
    AgreesApiSig (do let s ← x; pure (.ok s, [.tryFill 32])) (o.map some) := by
  cases o with
  | none => obtain ⟨s, hs⟩ := h; exact ⟨s, by rw [hs]; rfl⟩
  | some sig => obtain ⟨it, hs⟩ := h; exact ⟨it, by rw [hs]; rfl⟩

end Fips204.Impl
