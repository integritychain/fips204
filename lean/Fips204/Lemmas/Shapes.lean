import Fips204.Lemmas.Monad
/-! Shape (length) facts along the NTT pipelines: every transform that succeeds preserves the 256-coefficient shape. -/
namespace Fips204.Impl
open Fips204 Fips204.Gen

theorem nttRec_len (m : Mode) : ∀ (d k : Nat) (w r : Poly), w.length = 2 ^ d → nttRec m d k w = .ok r → r.length = 2 ^ d := by
  intro d
  induction d with
  | zero => intro k w r hw h; simp only [nttRec, pure_eq_ok] at h; exact h ▸ hw
  | succ d ih =>
    intro k w r hw h
    have hhalf : w.length / 2 = 2 ^ d := by omega
    unfold nttRec at h
    simp only [hhalf, bind_eq_ok, pure_eq_ok] at h
    obtain ⟨z, _, ts, hts, hi', hhi, lo', hlo, l, hl, hh, hh', rfl⟩ := h
    have e1 := mapM_len _ _ _ hts
    have e2 := zipWithM_len _ _ _ _ hhi
    have e3 := zipWithM_len _ _ _ _ hlo
    rw [List.length_take] at e2 e3
    rw [List.length_drop] at e1
    rw [List.length_append, ih _ _ _ (by omega) hl, ih _ _ _ (by omega) hh']; omega

theorem invRec_len (m : Mode) : ∀ (d k : Nat) (w r : Poly), w.length = 2 ^ d → invRec m d k w = .ok r → r.length = 2 ^ d := by
  intro d
  induction d with
  | zero => intro k w r hw h; simp only [invRec, pure_eq_ok] at h; exact h ▸ hw
  | succ d ih =>
    intro k w r hw h
    have hhalf : w.length / 2 = 2 ^ d := by omega
    unfold invRec at h
    simp only [hhalf, bind_eq_ok, pure_eq_ok] at h
    obtain ⟨lo, hlo, hi, hhi, z0, _, z, _, sums, hs, diffs, hd, rfl⟩ := h
    rw [List.length_append, zipWithM_len _ _ _ _ hs, zipWithM_len _ _ _ _ hd,
      ih _ _ _ (by rw [List.length_take]; omega) hlo, ih _ _ _ (by rw [List.length_drop]; omega) hhi]; omega

theorem nttPoly_len (m : Mode) (w r : Poly) (hw : w.length = 256) (h : nttPoly m w = .ok r) : r.length = 256 :=
  nttRec_len m 8 1 w r hw h

def Sh (n : Nat) (v : List Poly) : Prop := v.length = n ∧ ∀ q ∈ v, q.length = 256

theorem flatten_ne (n : Nat) (v : List Poly) (hn : 1 ≤ n) (hv : Sh n v) : v.flatten.length ≠ 0 := by
  rw [flatten_length 256 v hv.2, hv.1]
  have : 0 < n * 256 := Nat.mul_pos (by omega) (by omega)
  omega

theorem Sh.map₂ {n : Nat} {v : List Poly} (f : Int → Int) (h : Sh n v) : Sh n (v.map fun q => q.map f) :=
  ⟨by rw [List.length_map]; exact h.1, fun q hq => by
    obtain ⟨r, hr, rfl⟩ := List.mem_map.mp hq; rw [List.length_map]; exact h.2 r hr⟩

theorem Sh.of_mapM {α} {g : α → M Poly} {l : List α} {r : List Poly} {n : Nat} (hl : l.length = n) (h : l.mapM g = .ok r)
    (hg : ∀ a ∈ l, ∀ b, g a = .ok b → b.length = 256) : Sh n r :=
  ⟨by rw [mapM_len _ _ _ h]; exact hl, mapM_all _ (fun q => q.length = 256) _ _ h hg⟩

theorem Sh.mapM {g : Poly → M Poly} {n : Nat} {v r : List Poly} (hv : Sh n v) (h : v.mapM g = .ok r)
    (hg : ∀ a b, a.length = 256 → g a = .ok b → b.length = 256) : Sh n r :=
  .of_mapM hv.1 h fun a ha b hb => hg a b (hv.2 a ha) hb

theorem ntt_sh (m : Mode) (n : Nat) (v r : List Poly) (hv : Sh n v) (h : ntt m v = .ok r) : Sh n r :=
  hv.mapM h (nttPoly_len m)

theorem invNttPoly_len (m : Mode) (w r : Poly) (hw : w.length = 256) (h : invNttPoly m w = .ok r) : r.length = 256 := by
  simp only [invNttPoly, invNttPolyWith, bind_eq_ok] at h
  obtain ⟨w0, h0, w1, h1, h⟩ := h
  rw [mapM_len _ _ _ h]
  exact invRec_len m 8 1 w0 w1 (by rw [mapM_len _ _ _ h0]; exact hw) h1

theorem invNtt_sh (m : Mode) (n : Nat) (v r : List Poly) (hv : Sh n v) (h : invNtt m v = .ok r) : Sh n r :=
  hv.mapM h (invNttPoly_len m)

theorem mapM2_sh (f : Int → M Int) (n : Nat) (v r : List Poly) (hv : Sh n v) (h : v.mapM (fun p => p.mapM f) = .ok r) : Sh n r :=
  hv.mapM h fun a b ha hb => by rw [mapM_len _ _ _ hb]; exact ha

theorem toMont_sh (m : Mode) (n : Nat) (v r : List Poly) (hv : Sh n v) (h : toMont m v = .ok r) : Sh n r :=
  mapM2_sh _ n v r hv h

theorem rowFold_len (m : Mode) (l : List (Poly × Poly)) (acc r : Poly) (ha : acc.length = 256)
    (hl : ∀ au ∈ l, au.1.length = 256 ∧ au.2.length = 256)
    (h : l.foldlM (fun acc au => zipWith3M (mat_vec_mul_acc m) acc au.1 au.2) acc = .ok r) : r.length = 256 :=
  (foldlM_invariant _ (fun rest (s : Poly) => s.length = 256 ∧ ∀ au ∈ rest, au.1.length = 256 ∧ au.2.length = 256)
    (fun au rest s s' ⟨hs, hr⟩ h1 => by
      have := hr au (List.mem_cons_self ..)
      exact ⟨by rw [zipWith3M_len _ _ _ _ _ h1]; omega, fun x hx => hr x (List.mem_cons_of_mem _ hx)⟩)
    l acc r ⟨ha, hl⟩ h).1

theorem matVecMul_sh (m : Mode) (a : List (List Poly)) (u r : List Poly) (k l : Nat) (ha : a.length = k)
    (ha2 : ∀ row ∈ a, ∀ q ∈ row, q.length = 256) (hu : Sh l u) (h : matVecMul m a u = .ok r) : Sh k r := by
  unfold matVecMul at h
  obtain ⟨um, hum, h⟩ := bind_ok_inv h
  have sum := toMont_sh m l u um hu hum
  refine .of_mapM ha h fun row hrow b hb => rowFold_len m _ zeroPoly b zeroPoly_length (fun au hau => ?_) hb
  have h1 := List.of_mem_zip hau
  exact ⟨ha2 row hrow _ h1.1, sum.2 _ h1.2⟩

end Fips204.Impl
