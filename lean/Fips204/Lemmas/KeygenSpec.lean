import Fips204.Lemmas.Keys
import Fips204.Lemmas.VerifyCore
/-! Key generation equals Algorithm 6 written with exact arithmetic modulo q (`keygenSpec`), for every seed, and does not
    panic: one walk through `key_gen_internal` (`keyGenInternal_sim`) gives both.  The pipeline `NTT^-1(A_hat ∘ NTT(·))`, which key
    generation runs on `s1` and signing on `y`, is characterised here (`commit_spec`) for both.  Public-key derivation returns the
    same exact value (`privateToPublicKey_eq`): it does not panic, and from a generated private key it gives the generated public key. -/
namespace Fips204.Impl
open Fips204 Fips204.Gen Fips204.K

/-- Algorithm 6 (ML-DSA.KeyGen_internal) with exact arithmetic; samplers and encoders are the model's transcriptions -/
def keygenSpec (m : Mode) (O : Oracles) (p : ParamSet) (xi : List Nat) : M (List Nat × List Nat) := do
  let hh := O.h (xi ++ [p.k % 256, p.l % 256]) 128
  let rho := hh.take 32
  let rhoPrime := (hh.drop 32).take 64
  let capK := (hh.drop 96).take 32
  let (s1, s2) ← expandS m O false p rhoPrime
  let aHat ← expandA m O false p rho
  let t := List.zipWith (fun row s2r => tRowS row s1 s2r) aHat s2
  let t1 := t.map (fun q => q.map (fun x => (Spec.power2round x).1))
  let t0 := t.map (fun q => q.map (fun x => (Spec.power2round x).2))
  let pkb ← pkEncode m p rho t1
  let tr := O.h pkb 64
  let skb ← skEncode m p { rho := rho, key := capK, tr := tr, s1 := s1, s2 := s2, t0 := t0 }
  pure (pkb, skb)

/-- **the commitment pipeline, exactly** (`A_hat ∘ NTT(y)` of signing, `A_hat ∘ NTT(s1)` of key generation): the three steps
    the model takes, and what they return.  The value is found row by row: `rowP` on the stored form of `ntt y` is congruent to `rowS`
    (`rowP_rowS`), and the inverse transform lands on the canonical representative (`invNttPoly_eq`), which is the row of `commitS`. -/
theorem commit_spec (m : Mode) {k l : Nat} {aHat : List (List Poly)} {y : List Poly} (hA : MatIn k l aHat) (hl7 : l ≤ 7)
    (hy : VecIn l (-524288) 524288 y) :
    ∃ yh, ntt m y = .ok yh ∧ matVecMul m aHat yh = .ok (matP aHat yh) ∧ invNtt m (matP aHat yh) = .ok (commitS aHat y) ∧
      VecIn k 0 8380416 (commitS aHat y) := by
  obtain ⟨yh, hyh, vyh⟩ := ntt_c m hy
  have vyh' := vyh.mono (lo' := -67000000) (hi' := 67000000) (by omega) (by omega)
  have hres := hA.rows hl7
  have hmv := matVecMul_eq m aHat yh 7 hres vyh'.bnd (by decide)
  have hst := toMontP_ntt_stored m y yh hyh hy.bnd
  have hinv : invNtt m (matP aHat yh) = .ok (commitS aHat y) :=
    (mapM_eq_ok _ _ _).mpr ⟨by rw [commitS, matP, List.length_map, List.length_map], fun i h h' => by
      have hi : i < aHat.length := by rw [matP, List.length_map] at h; exact h
      simp only [matP, commitS, List.getElem_map]
      exact invNttPoly_eq m _ _ (rowP_rowS _ _ y _ _ (hres _ (List.getElem_mem hi)).2 hst (CongL.refl _))
        ((rowP_bnd _ _ 7 (hres _ (List.getElem_mem hi)).2 (toMontP_bnd yh vyh'.bnd) (hres _ (List.getElem_mem hi)).1).mono (by decide))⟩
  exact ⟨yh, hyh, hmv, hinv, commitS_in hA.sh hy.1.2⟩

theorem addReduce_eq (m : Mode) {n : Nat} {u v : List Poly} (hu : VecIn n 0 8380416 u) (hv : VecIn n (-4190208) 4190208 v) :
    (do let tnr ← addVectorNtt m u v; tnr.mapM (fun q : Poly => q.mapM (full_reduce32 m))) =
      .ok (List.zipWith (fun p q => List.zipWith (fun a b => (a + b) % Q) p q) u v) := by
  unfold addVectorNtt
  rw [hu.zipWithM₂_eq hv (g := fun a b => a + b) fun a b ha hb => arith_i32 _ _ _ (by omega) (by omega), ok_bind,
    (hu.zipWith₂ (lo' := -4190208) (hi' := 12570624) hv fun a b ha hb => by omega).mapM₂_eq (g := fun x => x % Q)
      fun x hx => full_reduce32_eq m x (by omega) (by omega)]
  simp only [List.map_zipWith]

theorem tVec_spec (m : Mode) {k l : Nat} {aHat : List (List Poly)} {s1 s2 t : List Poly} (hA : MatIn k l aHat) (hl7 : l ≤ 7)
    (v1 : VecIn l (-524288) 524288 s1) (v2 : VecIn k (-4190208) 4190208 s2) (ht : t = List.zipWith (fun row s2r => tRowS row s1 s2r) aHat s2) :
    ∃ s1h, ntt m s1 = .ok s1h ∧ matVecMul m aHat s1h = .ok (matP aHat s1h) ∧ invNtt m (matP aHat s1h) = .ok (commitS aHat s1) ∧
      (do let tnr ← addVectorNtt m (commitS aHat s1) s2; tnr.mapM (fun q : Poly => q.mapM (full_reduce32 m))) = .ok t ∧
      power2round m t = .ok (t.map (fun q => q.map (fun x => (Spec.power2round x).1)), t.map (fun q => q.map (fun x => (Spec.power2round x).2))) ∧
      VecIn k 0 8380416 t := by
  subst ht
  obtain ⟨s1h, h1, hmv, hinv, vw⟩ := commit_spec m hA hl7 v1
  have ht : List.zipWith (fun p q => List.zipWith (fun a b => (a + b) % Q) p q) (commitS aHat s1) s2 =
      List.zipWith (fun row s2r => tRowS row s1 s2r) aHat s2 := by
    unfold commitS
    rw [List.zipWith_map_left]
    rfl
  have hadd := addReduce_eq m vw v2
  rw [ht] at hadd
  have vt := tRowS_in hA.sh v1.1.2 v2.1
  exact ⟨s1h, h1, hmv, hinv, hadd, power2round_vec_eq m _ vt.2, vt⟩

theorem seed_split (O : Oracles) (hO : OracleOk O) (x : List Nat) :
    ((O.h x 128).take 32).length = 32 ∧ (((O.h x 128).drop 32).take 64).length = 64 ∧ (((O.h x 128).drop 96).take 32).length = 32 := by
  rw [List.length_take, List.length_take, List.length_take, List.length_drop, List.length_drop, hO.hlen]
  omega

/-- both sides end in the same `skEncode` call, so nothing about the private-key length is needed -/
theorem keyGenInternal_sim (m : Mode) (O : Oracles) (hO : OracleOk O) (p : ParamSet) (he : p.eta = 2 ∨ p.eta = 4) (hl7 : p.l ≤ 7)
    (hpcfg : p.pkLen = 32 + 32 * p.k * blqd) (xi : List Nat) :
    Sim (fun kp => pkIntoBytes m p kp.1 >>= fun pkb => skIntoBytes m p kp.2 >>= fun skb => pure (pkb, skb)) (GenOk m O p)
      (keyGenInternal m O false p xi) (keygenSpec m O p xi) := by
  unfold keyGenInternal keygenSpec
  simp only []
  obtain ⟨hrho, hrhoP, hkey⟩ := seed_split O hO (xi ++ [p.k % 256, p.l % 256])
  have eta4 := eta_le_four he
  refine Sim.bind (expandS_np m O hO p he _ hrhoP) fun ⟨s1, s2⟩ ⟨v1, v2⟩ => ?_
  refine Sim.bind' (expandA_np m O hO false p _ hrho) fun aHat hAeq hA => ?_
  have v1' := v1.mono (lo' := -524288) (hi' := 524288) (by omega) (by omega)
  have v2' := v2.mono (lo' := -524288) (hi' := 524288) (by omega) (by omega)
  obtain ⟨s1h, h1, hmv, hinv, hadd, hp2, vt⟩ := tVec_spec m hA hl7 v1' (v2.mono (by omega) (by omega)) rfl
  obtain ⟨tnr, ht1, ht2⟩ := bind_ok_inv hadd
  have vt1 := vt.1.p2r1
  have vt0 := vt.1.p2r0
  have vt0' := vt0.mono (lo' := -524288) (hi' := 524288) (by omega) (by omega)
  obtain ⟨pkb, hpk⟩ := pkEncode_ok m p _ _ hrho hpcfg vt1
  obtain ⟨t1d2, hpre, v8⟩ := precomputeT1_c m vt1
  obtain ⟨a1, ha1, va1⟩ := nttMont_c m v1'
  obtain ⟨a2, ha2, va2⟩ := nttMont_c m v2'
  obtain ⟨a0, ha0, va0⟩ := nttMont_c m vt0'
  refine Sim.step h1 ?_
  refine Sim.step hmv ?_
  refine Sim.step hinv ?_
  refine Sim.step ht1 ?_
  refine Sim.step ht2 ?_
  refine Sim.step hp2 ?_
  refine Sim.step₂ hpk ?_
  refine Sim.step hpre ?_
  refine Sim.step ha1 ?_
  refine Sim.step ha2 ?_
  refine Sim.step ha0 ?_
  refine Sim.ok _ ⟨⟨hrho, v8.1, v8.2⟩, ⟨hrho, va1.1, va2.1, va0.1, va1.2, va2.2, va0.2⟩, ⟨hkey, hO.hlen _ _, rfl, rfl⟩,
    ⟨s1, s2, _, _, pkb, v1, v2, vt0, vt1, ha1, ha2, ha0, hpre, hpk, rfl, aHat, s1h, _, _, _, hAeq, hA, h1, hmv, hinv, hadd, hp2⟩⟩ ?_
  rw [pkIntoBytes_of m p _ vt1 hpre, hpk, ok_bind, skIntoBytes_of m p eta4 ⟨hrho, v1, v2, vt0, ha1, ha2, ha0⟩]

theorem keygen_bytes_eq_spec (m : Mode) (O : Oracles) (hO : OracleOk O) (p : ParamSet) (he : p.eta = 2 ∨ p.eta = 4) (hl7 : p.l ≤ 7)
    (hpcfg : p.pkLen = 32 + 32 * p.k * blqd) (xi : List Nat) :
    (keyGenInternal m O false p xi >>= fun kp => pkIntoBytes m p kp.1 >>= fun pkb => skIntoBytes m p kp.2 >>= fun skb => pure (pkb, skb)) =
      keygenSpec m O p xi :=
  (keyGenInternal_sim m O hO p he hl7 hpcfg xi).2

theorem keyGenInternal_np (m : Mode) (O : Oracles) (hO : OracleOk O) (p : ParamSet) (he : p.eta = 2 ∨ p.eta = 4) (hl7 : p.l ≤ 7)
    (hcfg : p.pkLen = 32 + 32 * p.k * blqd) (xi : List Nat) : NoPanic (keyGenInternal m O false p xi) (GenOk m O p) :=
  (keyGenInternal_sim m O hO p he hl7 hcfg xi).1

/-- the model reduces the stored `s1` back out of Montgomery form instead of transforming `s1`: the two arguments of `mat_vec_mul` are
    congruent, so the inverse transform lands on the same canonical `commitS`, and from there on the steps are key generation's (`tVec_spec`) -/
theorem privateToPublicKey_eq (m : Mode) (O : Oracles) (p : ParamSet) (hl7 : p.l ≤ 7) (he : 0 ≤ p.eta ∧ p.eta ≤ 4) {sk : PrivateKey}
    {s1 s2 t0 t T : List Poly} (h : SkOf m p sk s1 s2 t0) {aHat : List (List Poly)} (hexp : expandA m O false p sk.rho = .ok aHat)
    (hA : MatIn p.k p.l aHat) (ht : t = List.zipWith (fun row s2r => tRowS row s1 s2r) aHat s2)
    (hT : precomputeT1 m (t.map fun q => q.map fun x => (Spec.power2round x).1) = .ok T) :
    privateToPublicKey m O p sk = .ok { rho := sk.rho, tr := sk.tr, t1d2 := T } := by
  have v1 := h.v1.mono (lo' := -524288) (hi' := 524288) (by omega) (by omega)
  obtain ⟨s1h, hn, hmv, hinv, hadd, hp2, _⟩ := tVec_spec m hA hl7 v1 (h.v2.mono (by omega) (by omega)) ht
  obtain ⟨tnr, ht1, ht2⟩ := bind_ok_inv hadd
  have hArow := hA.rows hl7
  -- s1h = ntt s1 is bounded, and the stored s1 is its to_mont image
  obtain ⟨r0, hr0, vr0⟩ := ntt_c m v1
  obtain rfl := ok_inj (hr0.symm.trans hn)
  have vs1 : VecIn p.l (-67000000) 67000000 r0 := vr0.mono (by omega) (by omega)
  have bs1 := vs1.bnd
  have vst : VecIn p.l (-16760833) 16760833 (toMontP r0) := vs1.map₂ fun x hx => by
    have := pr64s_spec x (by omega) (by omega); omega
  have hstored : sk.s1 = toMontP r0 := by
    have := h.n1
    unfold nttMont at this
    rw [hn, ok_bind, toMont_eq m r0 bs1] at this
    exact (ok_inj this).symm
  -- mont_reduce of the stored vector: a pure map, congruent to s1h
  have hred : sk.s1.mapM (fun q : Poly => q.mapM (mont_reduce m)) = .ok ((toMontP r0).map (fun q => q.map montv)) := by
    rw [hstored]
    exact vst.mapM₂_eq fun x hx => mont_reduce_eq m x (by omega) (by omega)
  have bred : ∀ w ∈ (toMontP r0).map (fun q => q.map montv), Bnd 67000000 w :=
    (vst.map₂ (f := montv) (lo' := -67000000) (hi' := 67000000) fun x hx => by
      have := montv_spec x (by omega) (by omega); omega).bnd
  have cred : CongV ((toMontP r0).map (fun q => q.map montv)) r0 := by
    unfold toMontP
    refine ⟨by simp, fun i h1 h2 => ?_⟩
    simp only [List.getElem_map]
    refine ⟨by simp, fun j g1 g2 => ?_⟩
    simp only [List.getElem_map]
    have x := bs1 r0[i] (List.getElem_mem _) _ (List.getElem_mem g2)
    exact cg_unmont _ x.1 x.2
  -- the two matrix-vector products are congruent, so their inverse transforms are equal
  have bra : ∀ w ∈ matP aHat r0, Bnd 2143289343 w := fun w hw => (matP_bnd aHat r0 7 hArow bs1 w hw).mono (by decide)
  have brb : ∀ w ∈ matP aHat ((toMontP r0).map (fun q => q.map montv)), Bnd 2143289343 w :=
    fun w hw => (matP_bnd aHat _ 7 hArow bred w hw).mono (by decide)
  obtain ⟨w', hw', _⟩ := invNtt_ok m _ brb
  obtain rfl := invNtt_eq_of_cong m _ _ w' _ (matP_cong aHat hA.res _ _ cred bred bs1) brb bra hw' hinv
  unfold privateToPublicKey
  rw [hexp, ok_bind, hred, ok_bind, unMont_nttMont m h.v2 (by omega) (by omega) h.n2, ok_bind,
    matVecMul_eq m aHat _ 7 hArow bred (by omega), ok_bind, hw', ok_bind, ht1, ok_bind, ht2, ok_bind, hp2, ok_bind]
  simp only []
  rw [hT, ok_bind, pure_eq]

theorem privateToPublicKey_np (m : Mode) (O : Oracles) (hO : OracleOk O) (p : ParamSet) (hl7 : p.l ≤ 7) (he : 0 ≤ p.eta ∧ p.eta ≤ 4)
    {sk : PrivateKey} {s1 s2 t0 : List Poly} (h : SkOf m p sk s1 s2 t0) : NoPanic (privateToPublicKey m O p sk) (fun pk => PkOk p pk) := by
  rcases expandA_np m O hO false p sk.rho h.rho with ⟨aHat, hexp, hA⟩ | ⟨s, hs⟩
  · obtain ⟨T, hT, vT⟩ := precomputeT1_c m (tRowS_in hA.sh h.v1.1.2 h.v2.1).1.p2r1
    rw [privateToPublicKey_eq m O p hl7 he h hexp hA rfl hT]
    exact NoPanic.ok _ ⟨h.rho, vT.1, vT.2⟩
  · unfold privateToPublicKey
    rw [hs, error_bind]
    exact Or.inr ⟨s, rfl⟩

theorem genOk_vectors (m : Mode) (O : Oracles) (p : ParamSet) (he : p.eta = 2 ∨ p.eta = 4) (hl7 : p.l ≤ 7)
    (kp : PublicKey × PrivateKey) (hg : GenOk m O p kp) :
    ∃ s1 s2 aHat, expandA m O false p kp.1.rho = .ok aHat ∧
      (aHat.length = p.k ∧ ∀ row ∈ aHat, row.length = p.l ∧ ∀ q ∈ row, q.length = 256 ∧ Res q) ∧
      VecIn p.l (-p.eta) p.eta s1 ∧ VecIn p.k (-p.eta) p.eta s2 ∧
      VecIn p.k (-4095) 4096 ((List.zipWith (fun row s2r => tRowS row s1 s2r) aHat s2).map (fun q => q.map (fun x => (Spec.power2round x).2))) ∧
      VecIn p.k 0 1023 ((List.zipWith (fun row s2r => tRowS row s1 s2r) aHat s2).map (fun q => q.map (fun x => (Spec.power2round x).1))) ∧
      nttMont m s1 = .ok kp.2.s1 ∧ nttMont m s2 = .ok kp.2.s2 ∧
      nttMont m ((List.zipWith (fun row s2r => tRowS row s1 s2r) aHat s2).map (fun q => q.map (fun x => (Spec.power2round x).2))) = .ok kp.2.t0 ∧
      precomputeT1 m ((List.zipWith (fun row s2r => tRowS row s1 s2r) aHat s2).map (fun q => q.map (fun x => (Spec.power2round x).1))) = .ok kp.1.t1d2 := by
  obtain ⟨s1, s2, t0, t1, pkb, v1, v2, v0, vt, n1, n2, n0, pc, _, _, aHat, s1Hat, as1, w, t, hexp, hA, hntt, hmv', hinv', hadd', hp2'⟩ := hg.vecs
  -- the logged steps are the steps of `tVec_spec`, so the logged values are the exact forms
  obtain ⟨s1h, h1, hmv, hinv, hadd, hp2, _⟩ := tVec_spec m hA hl7 (v1.mono (by omega) (by omega)) (v2.mono (by omega) (by omega)) rfl
  obtain rfl := ok_inj (hntt.symm.trans h1)
  obtain rfl := ok_inj (hmv'.symm.trans hmv)
  obtain rfl := ok_inj (hinv'.symm.trans hinv)
  obtain rfl := ok_inj (hadd'.symm.trans hadd)
  cases hp2'.symm.trans hp2
  exact ⟨s1, s2, aHat, hexp, hA, v1, v2, v0, vt, n1, n2, n0, pc⟩

theorem derive_eq_generated (m : Mode) (O : Oracles) (p : ParamSet) (hl7 : p.l ≤ 7) (he : p.eta = 2 ∨ p.eta = 4)
    (kp : PublicKey × PrivateKey) (hg : GenOk m O p kp) : privateToPublicKey m O p kp.2 = .ok kp.1 := by
  obtain ⟨s1, s2, aHat, hexp, hA, v1, v2, v0, _, n1, n2, n0, pc⟩ := genOk_vectors m O p he hl7 kp hg
  obtain ⟨_, _, lrho, ltr⟩ := hg.lens
  rw [← lrho] at hexp
  rw [privateToPublicKey_eq m O p hl7 (eta_le_four he) ⟨hg.sk.rho, v1, v2, v0, n1, n2, n0⟩ hexp hA rfl pc, lrho, ltr]

end Fips204.Impl
