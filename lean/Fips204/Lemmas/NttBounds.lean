import Fips204.Lemmas.Cong
/-!
  The two transforms (DESIGN 3.2): inside the magnitude envelope the butterflies of `inv_ntt` and of `ntt` do not fault, in either
  build mode, and compute the exact-integer specifications `invS`, `nttS` modulo q (`invRec_sem`, `invNttPoly_eq`, `nttRec_sem`).
  Read at `ws := w` these are the overflow theorems: after the repair (partial reduction on copy-in) `inv_ntt` cannot overflow `i32`
  for **any** input in the domain of `partial_reduce32`, i.e. for every vector its callers can possibly supply (`invNtt_ok`), and `ntt`
  cannot overflow on coefficients up to `2^19` (`ntt_ok`).
-/
namespace Fips204.Impl
open Fips204 Fips204.Gen Fips204.K

theorem mapM_sem (f : Int → M Int) (g : Int → Int) (P : Int → Prop) (R : Int → Prop)
    (hf : ∀ a, P a → ∃ b, f a = .ok b ∧ R b ∧ ∀ s, cg a s → cg b (g s)) (l ls : List Int) (hc : CongL l ls) (hp : ∀ a ∈ l, P a) :
    ∃ r, l.mapM f = .ok r ∧ (∀ b ∈ r, R b) ∧ CongL r (ls.map g) := by
  obtain ⟨r, hr, hl, hR⟩ := mapM_rel f (fun a b => R b ∧ ∀ s, cg a s → cg b (g s)) l (fun a ha => hf a (hp a ha))
  refine ⟨r, hr, fun b hb => ?_, by rw [List.length_map, hl, hc.1], fun i h1 h2 => ?_⟩
  · obtain ⟨i, hi, rfl⟩ := List.getElem_of_mem hb
    exact (hR i (hl ▸ hi) hi).1
  · rw [List.length_map] at h2
    rw [List.getElem_map]
    exact (hR i (hl ▸ h1) h1).2 _ (hc.2 i (hl ▸ h1) h2)

theorem zipWithM_sem (f : Int → Int → M Int) (g : Int → Int → Int) (P P' : Int → Prop) (R : Int → Prop)
    (hf : ∀ a a', P a → P' a' → ∃ b, f a a' = .ok b ∧ R b ∧ ∀ s s', cg a s → cg a' s' → cg b (g s s'))
    (l ls l' ls' : List Int) (hc : CongL l ls) (hc' : CongL l' ls') (hp : ∀ a ∈ l, P a) (hp' : ∀ a ∈ l', P' a) :
    ∃ r, zipWithM f l l' = .ok r ∧ (∀ b ∈ r, R b) ∧ CongL r (List.zipWith g ls ls') := by
  rw [zipWithM_eq_mapM]
  obtain ⟨r, hr, hl, hR⟩ := mapM_rel (fun p : Int × Int => f p.1 p.2)
    (fun p b => R b ∧ ∀ s s', cg p.1 s → cg p.2 s' → cg b (g s s')) (l.zip l')
    (fun p hp0 => hf p.1 p.2 (hp _ (List.of_mem_zip hp0).1) (hp' _ (List.of_mem_zip hp0).2))
  rw [List.length_zip] at hl
  refine ⟨r, hr, fun b hb => ?_, by rw [List.length_zipWith, hl, hc.1, hc'.1], fun i h1 h2 => ?_⟩
  · obtain ⟨i, hi, rfl⟩ := List.getElem_of_mem hb
    exact (hR i (by rw [List.length_zip, ← hl]; exact hi) hi).1
  · rw [List.length_zipWith] at h2
    obtain ⟨i1, i2⟩ := Nat.lt_min.mp h2
    have j1 : i < l.length := hc.1 ▸ i1
    have j2 : i < l'.length := hc'.1 ▸ i2
    have hz : i < (l.zip l').length := by rw [List.length_zip]; exact Nat.lt_min.mpr ⟨j1, j2⟩
    have := (hR i hz h1).2 ls[i] ls'[i]
    rw [List.getElem_zip] at this
    rw [List.getElem_zipWith]
    exact this (hc.2 i j1 i1) (hc'.2 i j2 i2)

/-- `|x y| ≤ X Y` from `|x| ≤ X`, `|y| ≤ Y`: the four products `(X ± x)(Y ± y)` are non-negative -/
theorem mul_bound_sym (x y X Y : Int) (hx1 : -X ≤ x) (hx2 : x ≤ X) (hy1 : -Y ≤ y) (hy2 : y ≤ Y) :
    -(X * Y) ≤ x * y ∧ x * y ≤ X * Y := by
  have a := Int.mul_nonneg (show 0 ≤ X - x by omega) (show 0 ≤ Y - y by omega)
  have b := Int.mul_nonneg (show 0 ≤ X + x by omega) (show 0 ≤ Y + y by omega)
  have c := Int.mul_nonneg (show 0 ≤ X - x by omega) (show 0 ≤ Y + y by omega)
  have d := Int.mul_nonneg (show 0 ≤ X + x by omega) (show 0 ≤ Y - y by omega)
  have e1 : (X - x) * (Y - y) + (X + x) * (Y + y) = 2 * (X * Y) + 2 * (x * y) := by grind
  have e2 : (X - x) * (Y + y) + (X + x) * (Y - y) = 2 * (X * Y) - 2 * (x * y) := by grind
  omega

theorem mul_bound (z x Z X : Int) (hz0 : 0 ≤ z) (hz : z ≤ Z) (hx1 : -X ≤ x) (hx2 : x ≤ X) :
    -(Z * X) ≤ z * x ∧ z * x ≤ Z * X :=
  mul_bound_sym z x Z X (by omega) hz hx1 hx2

/-- the crate's Montgomery product idiom `mont_reduce(a as i64 * b as i64)`: inside the envelope it returns `montv (a * b)`,
    which is small and is `a * b * 2^-32` modulo q.  The envelope `17996806323437568 = (q - 1) 2^31` is the largest canonical zeta times the
    largest `i32` magnitude, just inside the asserted domain of `mont_reduce` -/
theorem montmul_eq (m : Mode) (site : String) (a b A B : Int) (ha : -A ≤ a ∧ a ≤ A) (hb : -B ≤ b ∧ b ≤ B)
    (hAB : A * B ≤ 17996806323437568) :
    (do let p ← arith .i64 m site (a * b); mont_reduce m p) = .ok (montv (a * b)) ∧
    (-(A * B / 4294967296 + 4190210) ≤ montv (a * b) ∧ montv (a * b) ≤ A * B / 4294967296 + 4190210) ∧
    cg (montv (a * b)) (a * b * RINV) := by
  have hp := mul_bound_sym a b A B ha.1 ha.2 hb.1 hb.2
  refine ⟨?_, montv_bound _ _ hp.1 hp.2, montv_cg _ (by omega) (by omega)⟩
  rw [arith_i64 _ _ _ (by omega) (by omega), ok_bind]
  exact mont_reduce_eq m _ (by omega) (by omega)

/-- the one fact about the generated Montgomery zeta table: entry `k` is `1753^bitrev8(k) * 2^32 mod q` (kernel evaluation of
    `gen_zeta_table_mont`, stated on the list: through `zetaArr[k]?` the same sweep costs twice as much) -/
theorem zetaTable_eq : zetaTable = (List.range 256).map (fun k => 1753 ^ bitrev8 k * 4294967296 % 8380417) := by decide +kernel

theorem zetaArr_get (k : Nat) (hk : k < 256) : zetaArr[k]? = some (1753 ^ bitrev8 k * 4294967296 % 8380417) := by
  unfold zetaArr
  rw [zetaTable_eq, List.getElem?_toArray, List.getElem?_map, List.getElem?_range hk]
  rfl

theorem zeta_range (k : Nat) (hk : k < 256) : ∃ z, zetaArr[k]? = some z ∧ 0 ≤ z ∧ z < 8380417 :=
  ⟨_, zetaArr_get k hk, Int.emod_nonneg _ (by decide), Int.emod_lt_of_pos _ (by decide)⟩

/-- the table entry the crate reads (0 outside the table) -/
def zv (k : Nat) : Int := (zetaArr[k]?).getD 0

def cf (k : Nat) : Int := zv k * RINV

theorem zv_eq (k : Nat) (hk : k < 256) : zv k = 1753 ^ bitrev8 k * 4294967296 % 8380417 := by
  unfold zv
  rw [zetaArr_get k hk]
  rfl

theorem zeta_eq (site : String) (k : Nat) (hk : k < 256) : zeta site k = .ok (zv k) ∧ 0 ≤ zv k ∧ zv k < 8380417 := by
  have e := zv_eq k hk
  refine ⟨?_, e ▸ Int.emod_nonneg _ (by decide), e ▸ Int.emod_lt_of_pos _ (by decide)⟩
  unfold zeta
  rw [zetaArr_get k hk, e]
  rfl

theorem cf_cg (k : Nat) (hk : k < 256) : cg (cf k) (1753 ^ bitrev8 k) := by
  unfold cf cg RINV
  rw [zv_eq k hk]
  omega

theorem blk_children {k d : Nat} (h : (k + 1) * 2 ^ (d + 1) ≤ 512) :
    (2 * k + 1) * 2 ^ d ≤ 512 ∧ (2 * k + 1 + 1) * 2 ^ d ≤ 512 ∧ k < 256 := by
  have e : (k + 1) * 2 ^ (d + 1) = (2 * k + 1) * 2 ^ d + 2 ^ d := by rw [Nat.pow_succ]; grind
  have := Nat.one_le_two_pow (n := d)
  have : (2 * k + 1) * 1 ≤ (2 * k + 1) * 2 ^ d := Nat.mul_le_mul_left _ this
  refine ⟨by omega, by rw [Nat.add_mul (2 * k + 1) 1]; omega, by omega⟩

def bout : Nat → Int → Int
  | 0, B => B
  | d + 1, B => 2 * bout d B

theorem bout_ge (d : Nat) (B : Int) (hB : 0 ≤ B) : B ≤ bout d B := by
  induction d with
  | zero => exact Int.le_refl _
  | succ d ih => simp only [bout]; omega

/-- inverse butterflies, exact integers -/
def invS : Nat → Nat → List Int → List Int
  | 0, _, w => w
  | d + 1, k, w =>
    let half := w.length / 2
    let lo := invS d (2 * k + 1) (w.take half)
    let hi := invS d (2 * k) (w.drop half)
    List.zipWith (fun t u => t + u) lo hi ++ List.zipWith (fun t u => -zv k * (t - u) * RINV) lo hi

/-- `NTT^-1` with exact arithmetic, canonical representatives -/
def invC (v : List Int) : List Int := canon ((invS 8 1 v).map (fun x => FS * x))

/-- **the inverse butterflies compute `invS` modulo q** (and stay inside the overflow envelope) -/
theorem invRec_sem (m : Mode) : ∀ (d k : Nat) (w ws : List Int) (B : Int), CongL w ws → Bnd B w → 4190209 ≤ B →
    bout d B ≤ 2147483647 → (k + 1) * 2 ^ d ≤ 512 →
    ∃ w', invRec m d k w = .ok w' ∧ Bnd (bout d B) w' ∧ CongL w' (invS d k ws) := by
  intro d
  induction d with
  | zero => intro k w ws B hc hw _ _ _; exact ⟨w, rfl, hw, hc⟩
  | succ d ih =>
    intro k w ws B hc hw hB hfit hk
    obtain ⟨hk0, hk1, hkz⟩ := blk_children hk
    simp only [bout] at hfit ⊢
    have hge := bout_ge d B (by omega)
    obtain ⟨lo, hlo, blo, clo⟩ := ih (2 * k + 1) _ _ B (hc.take (w.length / 2)) (hw.take _) hB (by omega) hk1
    obtain ⟨hi, hhi, bhi, chi⟩ := ih (2 * k) _ _ B (hc.drop (w.length / 2)) (hw.drop _) hB (by omega) hk0
    obtain ⟨hz, z0a, z0b⟩ := zeta_eq "ntt.rs:inv_ntt:ZETA_TABLE_MONT[m]" k hkz
    generalize bout d B = C at *
    obtain ⟨sums, hsums, bsums, csums⟩ := zipWithM_sem (fun t u => arith .i32 m "ntt.rs:inv_ntt:t+w[j+len]" (t + u)) (fun t u => t + u)
      _ _ (fun c => -(2 * C) ≤ c ∧ c ≤ 2 * C)
      (fun a b ha hb => ⟨a + b, arith_i32 _ _ _ (by omega) (by omega), by omega, fun _ _ hca hcb => hca.add hcb⟩)
      lo _ hi _ clo chi blo bhi
    -- `mont_reduce(-zeta * (t - w[j + len]))` is below q in magnitude, whatever the difference was: this is where `q / 2 ≤ B` is used
    obtain ⟨diffs, hdiffs, bdiffs, cdiffs⟩ := zipWithM_sem (fun t u => do
        let d ← arith .i32 m "ntt.rs:inv_ntt:t-w[j+len]" (t - u)
        let p ← arith .i64 m "ntt.rs:inv_ntt:zeta*w" (-zv k * d)
        mont_reduce m p) (fun t u => -zv k * (t - u) * RINV)
      _ _ (fun c => -(2 * C) ≤ c ∧ c ≤ 2 * C)
      (fun a b ha hb => by
        obtain ⟨e, bd, c⟩ := montmul_eq m "ntt.rs:inv_ntt:zeta*w" (-zv k) (a - b) 8380416 2147483647 (by omega) (by omega) (by omega)
        refine ⟨_, ?_, by omega, fun _ _ hca hcb => c.trans (((hca.sub hcb).mul_left (-zv k)).mul_right RINV)⟩
        rw [arith_i32 _ _ _ (by omega) (by omega), ok_bind]
        exact e)
      lo _ hi _ clo chi blo bhi
    refine ⟨sums ++ diffs, ?_, Bnd.append bsums bdiffs, ?_⟩
    · simp only [invRec, hlo, hhi, hz, ok_bind, arith_i32 _ _ _ (show (-2147483648:Int) ≤ -zv k by omega) (show -zv k ≤ 2147483647 by omega),
        hsums, hdiffs, pure_eq]
    · unfold invS
      simp only [← hc.1]
      exact csums.append cdiffs

/-- the final scaling of `inv_ntt`, `full_reduce32(mont_reduce(F_MONT * x))`: the canonical residue of `FS x`.
    `1609564160 = bout 8 6287360` is what eight doubling layers make of the copy-in bound -/
theorem fmont_eq (m : Mode) (x : Int) (hx : -1609564160 ≤ x ∧ x ≤ 1609564160) :
    (do let p ← arith .i64 m "ntt.rs:inv_ntt:F_MONT*w" (F_MONT * x); let r ← mont_reduce m p; full_reduce32 m r) =
      .ok (montv (16382 * x) % 8380417) ∧ cg (montv (16382 * x) % 8380417) (FS * x) := by
  obtain ⟨e, bd, c⟩ := montmul_eq m "ntt.rs:inv_ntt:F_MONT*w" 16382 x 16382 1609564160 (by omega) hx (by omega)
  refine ⟨?_, (cg_mod _).trans (c.trans (cg.of_eq (Int.mul_right_comm ..)))⟩
  show (arith .i64 m _ (16382 * x) >>= fun p => mont_reduce m p >>= fun r => full_reduce32 m r) = _
  rw [← bind_assoc, e, ok_bind, full_reduce32_eq m _ (by omega) (by omega)]

theorem invNttPoly_eq (m : Mode) (w ws : List Int) (hc : CongL w ws) (hw : Bnd 2143289343 w) : invNttPoly m w = .ok (invC ws) := by
  -- copy-in: `partial_reduce32` brings any input of its domain to within 2^22 + 2 093 056 = 6 287 360
  obtain ⟨w0, hw0, b0, c0⟩ := mapM_sem (partial_reduce32 m) (fun x => x) _ (fun b => -6287360 ≤ b ∧ b ≤ 6287360)
    (fun a ha => ⟨pr32 a, partial_reduce32_eq m a (by omega) (by omega), by
      unfold pr32; omega,
      fun _ hcs => cg.trans (pr32_spec a (by omega) (by omega)).1 hcs⟩) w ws hc hw
  rw [List.map_id'] at c0
  -- eight doubling layers: `bout 8 6287360 = 1 609 564 160` still fits `i32`
  obtain ⟨w1, hw1, b1, c1⟩ := invRec_sem m 8 1 w0 ws 6287360 c0 b0 (by omega) (by decide) (by decide)
  obtain ⟨w2, hw2, b2, c2⟩ := mapM_sem (fun x => do
      let p ← arith .i64 m "ntt.rs:inv_ntt:F_MONT*w" (F_MONT * x)
      let r ← mont_reduce m p
      full_reduce32 m r) (fun x => FS * x) _ (fun b => 0 ≤ b ∧ b ≤ 8380416)
    (fun a ha => ⟨_, (fmont_eq m a ha).1, by omega,
      fun _ hcs => (fmont_eq m a ha).2.trans (hcs.mul_left FS)⟩) w1 _ c1 b1
  -- what the final pass returns is canonical and congruent to `FS * invS ..`, so it is the canonical representative
  simp only [invNttPoly, invNttPolyWith, hw0, hw1, hw2, ok_bind]
  exact congrArg _ (can_eq_of_cong w2 _ (c2.trans (canon_cong _).symm) b2 (canon_can _))

def CongV (u v : List Poly) : Prop := u.length = v.length ∧ ∀ i (h1 : i < u.length) (h2 : i < v.length), CongL u[i] v[i]

theorem CongV.refl (v : List Poly) : CongV v v := ⟨rfl, fun _ _ _ => CongL.refl _⟩

theorem CongV.uncons {a b : Poly} {as bs : List Poly} (h : CongV (a :: as) (b :: bs)) : CongL a b ∧ CongV as bs :=
  ⟨h.2 0 (by simp) (by simp), by have := h.1; simp at this; exact this, fun i h1 h2 => by
    have := h.2 (i + 1) (by simp; omega) (by simp; omega)
    simpa using this⟩

theorem invNtt_eq (m : Mode) (v V : List Poly) (h : CongV v V) (b : ∀ w ∈ v, Bnd 2143289343 w) : invNtt m v = .ok (V.map invC) :=
  (mapM_eq_ok _ v _).mpr ⟨by rw [List.length_map, h.1], fun i h1 h2 => by
    rw [List.length_map] at h2
    rw [List.getElem_map]
    exact invNttPoly_eq m _ _ (h.2 i h1 h2) (b _ (List.getElem_mem h1))⟩

theorem invNtt_eq_of_cong (m : Mode) (v v' r r' : List Poly) (h : CongV v v') (b : ∀ w ∈ v, Bnd 2143289343 w) (b' : ∀ w ∈ v', Bnd 2143289343 w)
    (hr : invNtt m v = .ok r) (hr' : invNtt m v' = .ok r') : r = r' :=
  (ok_inj (hr.symm.trans (invNtt_eq m v v' h b))).trans (ok_inj (hr'.symm.trans (invNtt_eq m v' v' (CongV.refl v') b'))).symm

/-- **the repaired inverse transform never faults** (either build mode) on any input in the domain of
    `partial_reduce32`, and returns canonical residues -/
theorem invNttPoly_ok (m : Mode) (w : List Int) (hw : Bnd 2143289343 w) :
    ∃ w', invNttPoly m w = .ok w' ∧ Res w' :=
  ⟨_, invNttPoly_eq m w w (CongL.refl w) hw, canon_can _⟩

theorem invNtt_ok (m : Mode) (ws : List (List Int)) (hw : ∀ w ∈ ws, Bnd 2143289343 w) :
    ∃ r, invNtt m ws = .ok r ∧ ∀ w' ∈ r, Res w' :=
  mapM_ok (invNttPoly m) (Bnd 2143289343) Res (invNttPoly_ok m) ws hw

/-! ### a constant block: the idea behind the F3 witnesses of `Props/C18`

    F3 is the finding that the pinned tree's `inv_ntt` copied its input unreduced, so that `mat_vec_mul`'s lazily accumulated sums
    overflow `i32` inside the butterflies; repaired by `partial_reduce32` on copy-in (`Legacy.invNttPoly` keeps the old definition). -/

theorem zipWithM_head_zeros (f : Int → Int → M Int) (x y z : Int) (n : Nat) (hx : f x x = .ok y) (h0 : f 0 0 = .ok z) :
    zipWithM f (x :: List.replicate n 0) (x :: List.replicate n 0) = .ok (y :: List.replicate n z) := by
  have := zipWithM_pure f (fun _ _ => z) (· = 0) (· = 0) (fun a b ha hb => by rw [ha, hb]; exact h0) (List.replicate n 0)
    (List.replicate n 0) (fun a h => List.eq_of_mem_replicate h) (fun a h => List.eq_of_mem_replicate h)
  simp only [zipWithM, hx, this, ok_bind, pure_eq, List.zipWith_replicate, Nat.min_self]

/-- on a constant block the inverse butterflies return `2^d c` followed by zeros: the sums double per layer, the differences are 0 -/
theorem invRec_const (m : Mode) : ∀ (d k : Nat) (c : Int), (k + 1) * 2 ^ d ≤ 512 → -2147483648 ≤ 2 ^ d * c → 2 ^ d * c ≤ 2147483647 →
    invRec m d k (List.replicate (2 ^ d) c) = .ok ((2 ^ d * c) :: List.replicate (2 ^ d - 1) 0) := by
  intro d
  induction d with
  | zero => intro k c _ _ _; simp [invRec, pure_eq]
  | succ d ih =>
    intro k c hk h1 h2
    obtain ⟨hk0, hk1, hkz⟩ := blk_children hk
    obtain ⟨hz, z0, z1⟩ := zeta_eq "ntt.rs:inv_ntt:ZETA_TABLE_MONT[m]" k hkz
    have hp : 2 ^ (d + 1) = 2 ^ d + 2 ^ d := by rw [Nat.pow_succ]; omega
    have e : (2 : Int) ^ (d + 1) * c = 2 ^ d * c + 2 ^ d * c := by rw [Int.pow_succ, Int.mul_comm _ 2, Int.mul_assoc, Int.two_mul]
    rw [e] at h1 h2 ⊢
    have hl := ih (2 * k + 1) c hk1 (by omega) (by omega)
    have hh := ih (2 * k) c hk0 (by omega) (by omega)
    have hpos := Nat.one_le_two_pow (n := d)
    have hdiff : ∀ t : Int, (do
        let d ← arith .i32 m "ntt.rs:inv_ntt:t-w[j+len]" (t - t)
        let p ← arith .i64 m "ntt.rs:inv_ntt:zeta*w" (-zv k * d)
        mont_reduce m p) = .ok 0 := fun t => by
      rw [Int.sub_self, arith_i32 _ _ 0 (by decide) (by decide), ok_bind, Int.mul_zero, arith_i64 _ _ 0 (by decide) (by decide), ok_bind,
        mont_reduce_eq m 0 (by decide) (by decide)]
      rfl
    rw [invRec]
    simp only [List.length_replicate, show (2 ^ (d + 1)) / 2 = 2 ^ d by omega, List.take_replicate, List.drop_replicate,
      show min (2 ^ d) (2 ^ (d + 1)) = 2 ^ d by omega, show 2 ^ (d + 1) - 2 ^ d = 2 ^ d by omega, hl, hh, hz, ok_bind,
      arith_i32 _ _ (-zv k) (by omega) (by omega)]
    rw [zipWithM_head_zeros _ _ (2 ^ d * c + 2 ^ d * c) 0 _ (arith_i32 _ _ _ (by omega) (by omega)) (arith_i32 _ _ _ (by omega) (by omega)), ok_bind,
      zipWithM_head_zeros _ _ 0 0 _ (hdiff _) (hdiff 0), ok_bind, pure_eq]
    rw [List.cons_append, ← List.replicate_succ, List.replicate_append_replicate]
    congr 3
    omega

/-- one forward layer adds at most one Montgomery product to the magnitude -/
def fstep (B : Int) : Int := B + 8380416 * B / 4294967296 + 4190210

def bfw : Nat → Int → Int
  | 0, B => B
  | d + 1, B => bfw d (fstep B)

theorem fstep_ge (B : Int) (h : 0 ≤ B) : B ≤ fstep B := by unfold fstep; omega

theorem bfw_ge (d : Nat) : ∀ B : Int, 0 ≤ B → B ≤ bfw d B := by
  induction d with
  | zero => intro B _; exact Int.le_refl _
  | succ d ih =>
    intro B h
    have h1 := fstep_ge B h
    have h2 := ih (fstep B) (by omega)
    simp only [bfw]; omega

/-- forward butterflies, exact integers: block of `2^d` coefficients with table index `k` -/
def nttS : Nat → Nat → List Int → List Int
  | 0, _, w => w
  | d + 1, k, w =>
    let half := w.length / 2
    let lo := w.take half
    let ts := (w.drop half).map (fun x => zv k * x * RINV)
    nttS d (2 * k) (List.zipWith (fun a t => a + t) lo ts) ++ nttS d (2 * k + 1) (List.zipWith (fun a t => a - t) lo ts)

/-- **the forward butterflies compute `nttS` modulo q** (and stay inside the overflow envelope) -/
theorem nttRec_sem (m : Mode) : ∀ (d k : Nat) (w ws : List Int) (B : Int), CongL w ws → Bnd B w → 0 ≤ B →
    bfw d B ≤ 2147483647 → (k + 1) * 2 ^ d ≤ 512 →
    ∃ w', nttRec m d k w = .ok w' ∧ Bnd (bfw d B) w' ∧ CongL w' (nttS d k ws) := by
  intro d
  induction d with
  | zero => intro k w ws B hc hw _ _ _; exact ⟨w, rfl, hw, hc⟩
  | succ d ih =>
    intro k w ws B hc hw hB hfit hk
    obtain ⟨hk0, hk1, hkz⟩ := blk_children hk
    have hsB : fstep B ≤ 2147483647 := Int.le_trans (bfw_ge d (fstep B) (by have := fstep_ge B hB; omega)) hfit
    obtain ⟨hz, z0, z1⟩ := zeta_eq "ntt.rs:ntt:ZETA_TABLE_MONT[m]" k hkz
    unfold fstep at hsB
    -- `t = mont_reduce(zeta * w[j + len])`, then `w[j] ± t`
    obtain ⟨ts, hts, bts, cts⟩ := mapM_sem (fun x => do
        let p ← arith .i64 m "ntt.rs:ntt:zeta*w" (zv k * x)
        mont_reduce m p) (fun x => zv k * x * RINV) (fun x => -B ≤ x ∧ x ≤ B)
      (fun t => -(8380416 * B / 4294967296 + 4190210) ≤ t ∧ t ≤ 8380416 * B / 4294967296 + 4190210)
      (fun x hx => by
        obtain ⟨e, b, c⟩ := montmul_eq m "ntt.rs:ntt:zeta*w" (zv k) x 8380416 B (by omega) hx (by omega)
        exact ⟨_, e, b, fun _ hxs => c.trans ((hxs.mul_left (zv k)).mul_right RINV)⟩)
      _ _ (hc.drop (w.length / 2)) (hw.drop _)
    obtain ⟨hi', hhi, bhi, chi⟩ := zipWithM_sem (fun a t => arith .i32 m "ntt.rs:ntt:w[j]-t" (a - t)) (fun a t => a - t) _ _
      (fun c => -(fstep B) ≤ c ∧ c ≤ fstep B)
      (fun a t ha ht => ⟨a - t, arith_i32 _ _ _ (by omega) (by omega), by unfold fstep; omega, fun _ _ hcs hct => hcs.sub hct⟩)
      _ _ _ _ (hc.take (w.length / 2)) cts (hw.take _) bts
    obtain ⟨lo', hlo, blo, clo⟩ := zipWithM_sem (fun a t => arith .i32 m "ntt.rs:ntt:w[j]+t" (a + t)) (fun a t => a + t) _ _
      (fun c => -(fstep B) ≤ c ∧ c ≤ fstep B)
      (fun a t ha ht => ⟨a + t, arith_i32 _ _ _ (by omega) (by omega), by unfold fstep; omega, fun _ _ hcs hct => hcs.add hct⟩)
      _ _ _ _ (hc.take (w.length / 2)) cts (hw.take _) bts
    have hB' : 0 ≤ fstep B := by unfold fstep; omega
    obtain ⟨l, hl, bl, cl⟩ := ih (2 * k) lo' _ (fstep B) clo blo hB' hfit hk0
    obtain ⟨h, hh, bh, ch⟩ := ih (2 * k + 1) hi' _ (fstep B) chi bhi hB' hfit hk1
    refine ⟨l ++ h, ?_, Bnd.append bl bh, ?_⟩
    · simp only [nttRec, hz, ok_bind, hts, hhi, hlo, hl, hh, pure_eq]
    · unfold nttS
      simp only [← hc.1]
      exact cl.append ch

/-- bound reached by the forward transform from inputs of magnitude at most 2^19 (the largest any caller supplies:
    the response vector z, the mask y) -/
theorem bfw_gamma1 : bfw 8 524288 = 34284028 := by decide

theorem nttPoly_sem (m : Mode) (w ws : List Int) (hc : CongL w ws) (hw : Bnd 524288 w) :
    ∃ w', nttPoly m w = .ok w' ∧ Bnd 34284028 w' ∧ CongL w' (nttS 8 1 ws) := by
  have h := nttRec_sem m 8 1 w ws 524288 hc hw (by omega) (by rw [bfw_gamma1]; omega) (by decide)
  rw [bfw_gamma1] at h
  exact h

theorem nttPoly_ok (m : Mode) (w : List Int) (hw : Bnd 524288 w) : ∃ w', nttPoly m w = .ok w' ∧ Bnd 34284028 w' :=
  let ⟨w', h, b, _⟩ := nttPoly_sem m w w (CongL.refl w) hw
  ⟨w', h, b⟩

theorem ntt_ok (m : Mode) (ws : List (List Int)) (hw : ∀ w ∈ ws, Bnd 524288 w) :
    ∃ r, ntt m ws = .ok r ∧ ∀ w' ∈ r, Bnd 34284028 w' :=
  mapM_ok (nttPoly m) (Bnd 524288) (Bnd 34284028) (nttPoly_ok m) ws hw

theorem ntt_single (m : Mode) (c ch : Poly) (h : nttPoly m c = .ok ch) : ntt m [c] = .ok [ch] := by
  unfold ntt
  rw [List.mapM_cons, h, ok_bind, List.mapM_nil, pure_eq, ok_bind, pure_eq]

end Fips204.Impl
