import Fips204.Lemmas.NoPanic
import Fips204.Lemmas.SpecCodec
import Fips204.Spec.Sample
/-! `sample_in_ball` is FIPS 204 Algorithm 29 (`SampleInBall`, `Spec/Sample.lean`) on the same stream; the challenge it returns
    has 256 coefficients in `{-1, 0, 1}`, `tau` of them non-zero (proved of the standard's recursion); no fault other than the
    model-only `Fault.fuel`. -/
namespace Fips204.Impl
open Fips204 Fips204.Gen

theorem sibFind_is_spec (i : Nat) (s : List Nat) : sibFind i s = Spec.squeezeAtMost i s := by
  induction s with
  | nil => rfl
  | cons j rest ih => simp only [sibFind, Spec.squeezeAtMost, ih]

theorem squeezeAtMost_le (i : Nat) : ∀ (s : List Nat) j rest, Spec.squeezeAtMost i s = some (j, rest) → j ≤ i := by
  intro s
  induction s with
  | nil => intro j rest h; cases h
  | cons a as ih =>
    intro j rest h
    unfold Spec.squeezeAtMost at h
    by_cases ha : a > i
    · rw [if_pos ha] at h; exact ih j rest h
    · rw [if_neg ha] at h
      simp only [Option.some.injEq, Prod.mk.injEq] at h
      omega

def nz (c : Poly) : Nat := (c.filter (fun e => e ≠ 0)).length

theorem nz_cons (a : Int) (l : Poly) : nz (a :: l) = (if a ≠ 0 then 1 else 0) + nz l := by
  unfold nz
  rw [List.filter_cons]
  by_cases h : a = 0
  · simp [h]
  · simp [h]; omega

theorem nz_set (l : Poly) : ∀ (i : Nat) (x y : Int), l[i]? = some y →
    nz (l.set i x) + (if y ≠ 0 then 1 else 0) = nz l + (if x ≠ 0 then 1 else 0) := by
  induction l with
  | nil => intro i x y h; simp at h
  | cons a as ih =>
    intro i x y h
    cases i with
    | zero =>
      simp only [List.getElem?_cons_zero, Option.some.injEq] at h
      subst h
      rw [List.set_cons_zero, nz_cons, nz_cons]; omega
    | succ j =>
      simp only [List.getElem?_cons_succ] at h
      have := ih j x y h
      rw [List.set_cons_succ, nz_cons, nz_cons]; omega

def Tri (c : Poly) : Prop := c.length = 256 ∧ ∀ x ∈ c, x = -1 ∨ x = 0 ∨ x = 1

theorem Tri.bnd {c : Poly} (h : Tri c) : c.length = 256 ∧ Bnd 1 c :=
  ⟨h.1, fun x hx => by rcases h.2 x hx with rfl | rfl | rfl <;> omega⟩

theorem Tri.set {c : Poly} (h : Tri c) (i : Nat) (v : Int) (hv : v = -1 ∨ v = 0 ∨ v = 1) : Tri (c.set i v) :=
  ⟨by rw [List.length_set]; exact h.1, fun x hx => by
    rcases List.mem_or_eq_of_mem_set hx with hx | rfl
    · exact h.2 x hx
    · exact hv⟩

theorem sibWrite_props (c : Poly) (hT : Tri c) (i j : Nat) (hj : j ≤ i) (hi : i < 256)
    (hz : ∀ k, i ≤ k → k < 256 → c[k]? = some 0) (cj : Int) (hcj : c[j]? = some cj) (v : Int) (hv : v = 1 ∨ v = -1) :
    Tri ((c.set i cj).set j v) ∧ nz ((c.set i cj).set j v) = nz c + 1 ∧
      ∀ k, i < k → k < 256 → ((c.set i cj).set j v)[k]? = some 0 := by
  have hcjm : cj = -1 ∨ cj = 0 ∨ cj = 1 := hT.2 cj (List.mem_of_getElem? hcj)
  have hT1 := hT.set i cj hcjm
  refine ⟨hT1.set j v (by omega), ?_, fun k hk hk2 => ?_⟩
  · have h1 := nz_set c i cj 0 (hz i (Nat.le_refl _) hi)
    have hc1j : (c.set i cj)[j]? = some cj := by
      by_cases hji : i = j
      · subst hji; rw [List.getElem?_set_self (by rw [hT.1]; exact hi)]
      · rw [List.getElem?_set_ne hji]; exact hcj
    have h2 := nz_set (c.set i cj) j v cj hc1j
    have hv0 : v ≠ 0 := by omega
    simp only [hv0, ne_eq, not_false_eq_true, if_true, not_true_eq_false, if_false] at h1 h2
    split at h1 <;> split at h2 <;> omega
  · rw [List.getElem?_set_ne (by omega), List.getElem?_set_ne (by omega)]
    exact hz k (by omega) hk2

theorem neg_one_pow_pm : ∀ n : Nat, (-1 : Int) ^ n = 1 ∨ (-1 : Int) ^ n = -1
  | 0 => Or.inl rfl
  | n + 1 => by rw [Int.pow_succ]; rcases neg_one_pow_pm n with h | h <;> rw [h] <;> decide

/-- the loop of Algorithm 29 on the indices `base, .., 255`, from a challenge that is still zero there: every index adds one
    coefficient `±1`, whatever the stream -/
theorem sibLoop_props (tau : Nat) (h : List Nat) : ∀ (n base : Nat) (c : Poly) (s : List Nat) (c' : Poly), base + n = 256 → Tri c →
    (∀ k, base ≤ k → k < 256 → c[k]? = some 0) → Spec.sibLoop tau h (List.range' base n) c s = some c' →
    Tri c' ∧ nz c' = nz c + n := by
  intro n
  induction n with
  | zero =>
    intro base c s c' _ hT _ hl
    rw [List.range'_zero, Spec.sibLoop] at hl
    cases hl
    exact ⟨hT, rfl⟩
  | succ n ih =>
    intro base c s c' hb hT hz hl
    rw [List.range'_succ, Spec.sibLoop] at hl
    cases hsq : Spec.squeezeAtMost base s with
    | none => rw [hsq] at hl; cases hl
    | some r =>
      obtain ⟨j, rest⟩ := r
      rw [hsq] at hl
      dsimp only at hl
      have hj := squeezeAtMost_le base s j rest hsq
      have hjl : j < c.length := by rw [hT.1]; omega
      have hgd : c.getD j 0 = c[j] := by rw [List.getD_eq_getElem?_getD, List.getElem?_eq_getElem hjl]; rfl
      obtain ⟨h1, h2, h3⟩ := sibWrite_props c hT base j hj (by omega) hz c[j] (List.getElem?_eq_getElem hjl) _
        (neg_one_pow_pm (h.getD (base + tau - 256) 0))
      rw [hgd] at hl
      obtain ⟨g1, g2⟩ := ih (base + 1) _ rest c' (by omega) h1 (fun k hk hk2 => h3 k (by omega) hk2) hl
      exact ⟨g1, by rw [g2, h2]; omega⟩

theorem sum_band1 (c : Poly) (h : ∀ x ∈ c, x = -1 ∨ x = 0 ∨ x = 1) (s : Int) :
    (c.map (fun e => band .i32 e 1)).foldl (· + ·) s = s + nz c := by
  have b1 : band .i32 (-1) 1 = 1 := band32_neg1 1 (by omega) (by omega)
  have b2 : band .i32 0 1 = 0 := band32_zero 1
  have b3 : band .i32 1 1 = 1 := band_low .i32 1 1 1 rfl (show (1 : Int) ≤ 2147483647 by omega) (by omega) (show (1 : Int) ≤ 2147483647 by omega)
  induction c generalizing s with
  | nil => exact (Int.add_zero s).symm
  | cons a as ih =>
    rw [List.map_cons, List.foldl_cons, ih (fun x hx => h x (List.mem_cons_of_mem _ hx)), nz_cons]
    rcases h a (List.mem_cons_self ..) with rfl | rfl | rfl
    · rw [b1, if_pos (by decide)]
      omega
    · rw [b2, if_neg (by decide)]
      omega
    · rw [b3, if_pos (by decide)]
      omega

theorem nz_zeroPoly : nz zeroPoly = 0 := by
  rw [nz, zeroPoly, List.filter_replicate]
  rfl

theorem zeroPoly_tri : Tri zeroPoly :=
  ⟨zeroPoly_length, fun _ hx => Or.inr (Or.inl (eq_zero_of_mem_zeroPoly hx))⟩

theorem sibLoop_zero (tau : Nat) (ht : tau ≤ 256) (h s : List Nat) (c : Poly)
    (hl : Spec.sibLoop tau h (List.range' (256 - tau) tau) zeroPoly s = some c) : Tri c ∧ nz c = tau := by
  have := sibLoop_props tau h tau (256 - tau) zeroPoly s c (by omega) zeroPoly_tri (fun k _ hk => zeroPoly_get k hk) hl
  rwa [nz_zeroPoly, Nat.zero_add] at this

theorem spec_sampleInBall_bnd (tau : Nat) (ht : tau ≤ 256) (stream : List Nat) (c : Poly) (h : Spec.sampleInBall tau stream = some c) :
    c.length = 256 ∧ Bnd 1 c := by
  rw [Spec.sampleInBall, ← List.range'_eq_map_range] at h
  exact (sibLoop_zero tau ht _ _ c h).1.bnd

theorem neg_one_pow_bit (b : Nat) (hb : b < 2) : ((-1 : Int) ^ b) = 1 - 2 * Int.ofNat b := by
  have : b = 0 ∨ b = 1 := by omega
  rcases this with rfl | rfl <;> decide

/-- one index of Algorithm 29 (lines 10, 11) once `j ≤ i` is chosen: by squeezing (`Spec.squeezeAtMost`), or `j = i` in
    constant-time test mode.  `tau ≤ 64` because the sign bits are the 64 bits of the eight bytes `hbytes`: index `i` reads bit
    `i + tau - 256 < tau` -/
theorem sibStep_eq (O : Oracles) (ctest : Bool) (tau : Nat) (hbytes : List Nat) (hh : hbytes.length = 8) (ht : tau ≤ 64)
    (c : Poly) (s s' : List Nat) (i j : Nat) (hc : c.length = 256) (hi1 : i < 256) (hi2 : 256 ≤ i + tau) (hj : j ≤ i)
    (hsel : (if ctest then some (i, s) else Spec.squeezeAtMost i s) = some (j, s')) :
    sibStep O ctest tau hbytes (c, s) i =
      .ok ((c.set i (c.getD j 0)).set j ((-1 : Int) ^ ((Spec.bytesToBits hbytes).getD (i + tau - 256) 0)), s') := by
  have hjl : j < c.length := by omega
  have hidx : (i + tau - 256) / 8 < hbytes.length := by omega
  have tail : (idx "hashing.rs:sample_in_ball:c[j]" c j >>= fun cj =>
      idx "hashing.rs:sample_in_ball:h[index/8]" hbytes ((i + tau - 256) / 8) >>= fun bite =>
      (pure ((c.set i cj).set j (1 - 2 * Int.ofNat (bite / 2 ^ ((i + tau - 256) % 8) % 2)), s') : M (Poly × List Nat))) =
      .ok ((c.set i (c.getD j 0)).set j ((-1 : Int) ^ ((Spec.bytesToBits hbytes).getD (i + tau - 256) 0)), s') := by
    rw [idx_eq _ c j hjl, ok_bind, idx_eq _ hbytes ((i + tau - 256) / 8) hidx, ok_bind, pure_eq, bytesToBits_getD hbytes _ hidx,
      neg_one_pow_bit _ (Nat.mod_lt _ (by omega)), List.getD_eq_getElem?_getD, List.getElem?_eq_getElem hjl,
      List.getD_eq_getElem?_getD, List.getElem?_eq_getElem hidx]
    rfl
  unfold sibStep
  dsimp only
  cases ctest with
  | true =>
    rw [if_pos rfl] at hsel ⊢
    cases hsel
    rw [pure_eq, ok_bind, Nat.mod_eq_of_lt hi1]
    exact tail
  | false =>
    rw [if_neg Bool.false_ne_true] at hsel ⊢
    rw [sibFind_is_spec, hsel]
    dsimp only
    rw [pure_eq, ok_bind]
    exact tail

theorem sibStep_none (O : Oracles) (tau : Nat) (hbytes : List Nat) (c : Poly) (s : List Nat) (i : Nat) (h : Spec.squeezeAtMost i s = none) :
    sibStep O false tau hbytes (c, s) i = .error (.fuel "hashing.rs:sample_in_ball:stream") := by
  unfold sibStep
  dsimp only
  rw [if_neg Bool.false_ne_true, sibFind_is_spec, h]
  rfl

/-- the loop of Algorithm 29 in lock step.  In constant-time test mode the crate reads no stream: that is the standard's loop
    on the stream of the indices themselves. -/
theorem sibFold_is_spec (O : Oracles) (ctest : Bool) (tau : Nat) (hbytes : List Nat) (hh : hbytes.length = 8) (ht : tau ≤ 64) :
    ∀ (is : List Nat) (c : Poly) (s : List Nat), c.length = 256 → (∀ i ∈ is, i < 256 ∧ 256 ≤ i + tau) →
      ∃ s', is.foldlM (sibStep O ctest tau hbytes) (c, s) = ofSpec "hashing.rs:sample_in_ball:stream"
        ((Spec.sibLoop tau (Spec.bytesToBits hbytes) is c (if ctest then is else s)).map (·, s')) := by
  intro is
  induction is with
  | nil => intro c s _ _; exact ⟨s, rfl⟩
  | cons i is ih =>
    intro c s hc hi
    obtain ⟨hi1, hi2⟩ := hi i List.mem_cons_self
    have hrest := fun (c' : Poly) (s' : List Nat) (hc' : c'.length = 256) => ih c' s' hc' (fun x hx => hi x (List.mem_cons_of_mem _ hx))
    rw [List.foldlM_cons, Spec.sibLoop]
    cases ctest with
    | true =>
      rw [sibStep_eq O true tau hbytes hh ht c s s i i hc hi1 hi2 (Nat.le_refl _) rfl, ok_bind, if_pos rfl, Spec.squeezeAtMost,
        if_neg (Nat.lt_irrefl i)]
      exact hrest _ s (by rw [List.length_set, List.length_set]; exact hc)
    | false =>
      rw [if_neg Bool.false_ne_true]
      cases hsq : Spec.squeezeAtMost i s with
      | none => rw [sibStep_none O tau hbytes c s i hsq]; exact ⟨s, rfl⟩
      | some r =>
        obtain ⟨j, rest⟩ := r
        rw [sibStep_eq O false tau hbytes hh ht c s rest i j hc hi1 hi2 (squeezeAtMost_le i s j rest hsq) hsq, ok_bind]
        exact hrest _ rest (by rw [List.length_set, List.length_set]; exact hc)

/-- `sample_in_ball` in either mode: the loop of Algorithm 29 on the stream after the eight sign bytes (on the stream of the
    indices in constant-time test mode); both Hamming-weight assertions hold by `sibLoop_props` -/
theorem sampleInBall_eq (m : Mode) (O : Oracles) (hO : OracleOk O) (ctest : Bool) (tau : Int) (rho : List Nat) (ht : 0 ≤ tau ∧ tau ≤ 64) :
    sampleInBall m O ctest tau rho = ofSpec "hashing.rs:sample_in_ball:stream"
      (Spec.sibLoop tau.toNat (Spec.bytesToBits ((O.h rho (8 + 1360 * O.fuelScale)).take 8)) (List.range' (256 - tau.toNat) tau.toNat) zeroPoly
        (if ctest then List.range' (256 - tau.toNat) tau.toNat else (O.h rho (8 + 1360 * O.fuelScale)).drop 8)) := by
  unfold sampleInBall
  rw [if_neg (by omega)]
  dsimp only
  rw [if_neg (by omega), show (List.range tau.toNat).map (fun t => 256 - tau.toNat + t) = List.range' (256 - tau.toNat) tau.toNat by
    rw [List.range'_eq_map_range]]
  have hh : ((O.h rho (8 + 1360 * O.fuelScale)).take 8).length = 8 := by rw [List.length_take, hO.hlen]; omega
  obtain ⟨s', hf⟩ := sibFold_is_spec O ctest tau.toNat _ hh (by omega) (List.range' (256 - tau.toNat) tau.toNat) zeroPoly
    ((O.h rho (8 + 1360 * O.fuelScale)).drop 8) zeroPoly_length (fun i hi => by
      have := List.mem_range'_1.mp hi; omega)
  rw [hf]
  cases hl : Spec.sibLoop tau.toNat (Spec.bytesToBits ((O.h rho (8 + 1360 * O.fuelScale)).take 8)) (List.range' (256 - tau.toNat) tau.toNat) zeroPoly
      (if ctest then List.range' (256 - tau.toNat) tau.toNat else (O.h rho (8 + 1360 * O.fuelScale)).drop 8) with
  | none => rfl
  | some c =>
    obtain ⟨hT, hn⟩ := sibLoop_zero tau.toNat (by omega) _ _ c hl
    have d1 : ((c.filter (fun e => e ≠ 0)).length == tau.toNat) = true := beq_iff_eq.mpr hn
    have d2 : decide ((c.map (fun e => band .i32 e 1)).foldl (· + ·) 0 = Int.ofNat tau.toNat) = true := by
      rw [sum_band1 c hT.2 0, hn]; simp
    simp only [Option.map, ofSpec, ok_bind]
    rw [dassert_dec m _ _ d1, ok_bind, dassert_dec m _ _ d2, ok_bind, pure_eq]

/-- **`sample_in_ball` is FIPS 204 Algorithm 29 (`SampleInBall`) as written**, on the same SHAKE256 stream, for the three values of tau -/
theorem sampleInBall_is_algorithm_29 (m : Mode) (O : Oracles) (hO : OracleOk O) (tau : Int) (rho : List Nat) (ht : 0 ≤ tau ∧ tau ≤ 64) :
    sampleInBall m O false tau rho =
      ofSpec "hashing.rs:sample_in_ball:stream" (Spec.sampleInBall tau.toNat (O.h rho (8 + 1360 * O.fuelScale))) := by
  rw [sampleInBall_eq m O hO false tau rho ht, Spec.sampleInBall, List.range'_eq_map_range]
  rfl

theorem sampleInBall_np_tri (m : Mode) (O : Oracles) (hO : OracleOk O) (ctest : Bool) (tau : Int) (rho : List Nat)
    (ht : 0 ≤ tau ∧ tau ≤ 64) : NoPanic (sampleInBall m O ctest tau rho) (fun c => Tri c ∧ nz c = tau.toNat) :=
  NoPanic.of_eq_spec (sampleInBall_eq m O hO ctest tau rho ht) (sibLoop_zero tau.toNat (by omega) _ _)

theorem sampleInBall_np (m : Mode) (O : Oracles) (hO : OracleOk O) (ctest : Bool) (tau : Int) (rho : List Nat)
    (ht : 0 ≤ tau ∧ tau ≤ 64) : NoPanic (sampleInBall m O ctest tau rho) (fun c => c.length = 256 ∧ Bnd 1 c) :=
  (sampleInBall_np_tri m O hO ctest tau rho ht).mono fun _ hc => hc.1.bnd

end Fips204.Impl
