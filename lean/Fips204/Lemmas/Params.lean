import Fips204.Lemmas.BitCodec
import Fips204.Spec.MlDsa
/-! What the proofs use of a row of Table 1: the crate's `bit_length` is the standard's `bitlen`; the bit widths and lengths of the
    encodings; the records `SigCfg`, `W1Cfg`, `VerCfg`, `ParamCfg` and the three rows that meet them. -/
namespace Fips204.Impl
open Fips204 Fips204.Gen

/-- `bit_length(x) = bitlen x` for every positive `x` below `2^63` (the sum in `usize` cannot overflow) -/
theorem bitLen_eq (m : Mode) (x : Int) (h0 : 0 < x) (h1 : x < 2 ^ 63) : bitLen m x = .ok (Spec.bitlen x) := by
  have hlog : Nat.log2 x.toNat < 63 := (Nat.log2_lt (by omega)).mpr (by omega)
  unfold bitLen bit_length ilog2
  rw [if_pos h0, pure_eq, ok_bind, Int.ofNat_eq_natCast,
    arith_eq _ _ _ _ (by simp only [IT.lo]; omega) (by simp only [IT.hi]; omega), ok_bind, pure_eq]
  exact congrArg Except.ok (by unfold Spec.bitlen; omega)

theorem lt_two_pow_bitlen (x : Int) : x < 2 ^ Spec.bitlen x := by
  unfold Spec.bitlen
  have := Nat.lt_log2_self (n := x.toNat)
  have e : ((2 : Int) ^ (Nat.log2 x.toNat + 1)) = (((2 : Nat) ^ (Nat.log2 x.toNat + 1) : Nat) : Int) := by simp
  rw [e]
  omega

theorem bitLen_lt (m : Mode) (x : Int) (bl : Nat) (h0 : 0 < x) (h1 : x < 2 ^ 63) (hbl : bitLen m x = .ok bl) : x < 2 ^ bl := by
  rw [bitLen_eq m x h0 h1] at hbl
  rw [← ok_inj hbl]
  exact lt_two_pow_bitlen x

theorem Pair.of_bitLen {m : Mode} {a b : Int} {bl : Nat} (ha : 0 ≤ a ∧ a < 1048576) (hb : 1 ≤ b ∧ b < 1048576)
    (hbl : bitLen m (a + b) = .ok bl) (hbl2 : 1 ≤ bl ∧ bl ≤ 20) : Pair m a b bl :=
  ⟨ha, hb, hbl, hbl2, bitLen_lt m _ bl (by omega) (by omega) hbl⟩

theorem blqd_eq : blqd = 10 := by decide

theorem D_toNat : D.toNat = 13 := by decide

theorem top_eq : top = 4096 := by decide

theorem t1Max_eq : (2 : Int) ^ 10 - 1 = 1023 := by decide

theorem bitLen_1023 (m : Mode) : bitLen m (0 + 1023) = .ok 10 := bitLen_eq m _ (by decide) (by decide)

theorem bitLen_t0 (m : Mode) : bitLen m (top - 1 + top) = .ok 13 := bitLen_eq m _ (by decide) (by decide)

theorem pair_t1 (m : Mode) : Pair m 0 1023 10 := .of_bitLen (by omega) (by omega) (bitLen_1023 m) (by omega)

theorem pair_t0 (m : Mode) : Pair m 4095 4096 13 := .of_bitLen (by omega) (by omega) (top_eq ▸ bitLen_t0 m) (by omega)

theorem eta_le_four {eta : Int} (he : eta = 2 ∨ eta = 4) : 0 ≤ eta ∧ eta ≤ 4 := by omega

theorem pair_eta (m : Mode) (eta : Int) (bl : Nat) (he : eta = 2 ∨ eta = 4) (hbl : bitLen m (2 * eta) = .ok bl) : Pair m eta eta bl := by
  rw [Int.two_mul] at hbl
  refine .of_bitLen (by omega) (by omega) hbl ?_
  rw [bitLen_eq m _ (by omega) (by omega)] at hbl
  rw [← ok_inj hbl]
  rcases he with rfl | rfl <;> decide

/-- the facts about a parameter set that `sig_decode` relies on -/
structure SigCfg (p : ParamSet) (blz : Nat) : Prop where
  g1 : (p.gamma1 = 131072 ∧ blz = 18) ∨ (p.gamma1 = 524288 ∧ blz = 20)
  len : p.sigLen = p.lambdaDiv4 + p.l * (32 * blz) + p.omega.toNat + p.k
  om : 0 ≤ p.omega
  omk : 1 ≤ p.omega.toNat + p.k ∧ p.omega.toNat + p.k < 256
  l1 : 1 ≤ p.l

theorem sigCfg_44 : SigCfg ml_dsa_44 18 := ⟨by decide, by decide, by decide, by decide, by decide⟩
theorem sigCfg_65 : SigCfg ml_dsa_65 20 := ⟨by decide, by decide, by decide, by decide, by decide⟩
theorem sigCfg_87 : SigCfg ml_dsa_87 20 := ⟨by decide, by decide, by decide, by decide, by decide⟩

section
variable {p : ParamSet} {blz : Nat} (cfg : SigCfg p blz)
include cfg

theorem SigCfg.gamma1_gt : 1 < p.gamma1 ∧ p.gamma1 ≤ 524288 := by
  have := cfg.g1
  omega

theorem SigCfg.blz_le : 1 ≤ blz ∧ blz ≤ 20 := by
  have := cfg.g1
  omega

theorem SigCfg.pow : p.gamma1 - 1 + p.gamma1 + 1 = 2 ^ blz := by
  rcases cfg.g1 with ⟨h, rfl⟩ | ⟨h, rfl⟩ <;> rw [h] <;> decide

theorem SigCfg.blz_eq : 1 + Spec.bitlen (p.gamma1 - 1) = blz := by
  rcases cfg.g1 with ⟨h, rfl⟩ | ⟨h, rfl⟩ <;> rw [h] <;> decide

theorem SigCfg.bitLen_pred (m : Mode) : Impl.bitLen m (p.gamma1 - 1) = .ok (Spec.bitlen (p.gamma1 - 1)) := by
  have := cfg.gamma1_gt
  exact bitLen_eq m _ (by omega) (by omega)

theorem SigCfg.pair (m : Mode) : Pair m (p.gamma1 - 1) p.gamma1 blz := by
  have hg := cfg.gamma1_gt
  refine .of_bitLen (by omega) (by omega) ?_ cfg.blz_le
  rcases cfg.g1 with ⟨h, rfl⟩ | ⟨h, rfl⟩ <;> rw [h] <;> exact bitLen_eq m _ (by decide) (by decide)

end

theorem sigLenOk_true (m : Mode) (p : ParamSet) (blz : Nat) (cfg : SigCfg p blz) : sigLenOk m p = .ok true := by
  have hg := cfg.gamma1_gt
  unfold sigLenOk
  rw [arith_i32 _ _ _ (by omega) (by omega), ok_bind, cfg.bitLen_pred m, ok_bind, pure_eq, absI_eq, if_neg (by have := cfg.om; omega), cfg.len,
    Nat.mul_assoc, cfg.blz_eq]
  simp

/-- `qm = (q-1)/(2 gamma2) - 1`, the largest coefficient of `w1`: the crate's truncating division and the standard's agree on it, and it has
    `w1Bits` bits -/
structure W1Cfg (p : ParamSet) (qm : Int) : Prop where
  tdiv : Int.tdiv (Q - 1) (2 * p.gamma2) - 1 = qm
  div : (Q - 1) / (2 * p.gamma2) - 1 = qm
  bits : Spec.bitlen qm = p.w1Bits
  qm : 1 ≤ qm ∧ qm ≤ 43
  width : 1 ≤ p.w1Bits ∧ p.w1Bits ≤ 20

/-- the two values of gamma2: `qm` is 43 or 15, of 6 or 4 bits -/
theorem gamma2_facts (p : ParamSet) (hg : (p.gamma2 = 95232 ∧ p.w1Bits = 6) ∨ (p.gamma2 = 261888 ∧ p.w1Bits = 4)) : ∃ qm, W1Cfg p qm := by
  rcases hg with ⟨h1, h2⟩ | ⟨h1, h2⟩
  · exact ⟨43, by rw [h1]; decide, by rw [h1]; decide, by rw [h2]; decide, by omega, by omega⟩
  · exact ⟨15, by rw [h1]; decide, by rw [h1]; decide, by rw [h2]; decide, by omega, by omega⟩

theorem W1Cfg.lt {p : ParamSet} {qm : Int} (c : W1Cfg p qm) : qm < 2 ^ p.w1Bits := c.bits ▸ lt_two_pow_bitlen qm

theorem W1Cfg.bitLen_qm {p : ParamSet} {qm : Int} (c : W1Cfg p qm) (m : Mode) : bitLen m qm = .ok p.w1Bits := by
  have hq := c.qm
  exact c.bits ▸ bitLen_eq m qm (by omega) (by omega)

theorem W1Cfg.pair {p : ParamSet} {qm : Int} (c : W1Cfg p qm) (m : Mode) : Pair m 0 qm p.w1Bits := by
  have hq := c.qm
  exact .of_bitLen (by omega) (by omega) (by rw [Int.zero_add]; exact c.bitLen_qm m) c.width

/-- the facts about a parameter set the verifier relies on (each of the three sets has them, by evaluation) -/
structure VerCfg (p : ParamSet) (blz : Nat) : Prop where
  sig : SigCfg p blz
  tau : 0 ≤ p.tau ∧ p.tau ≤ 64
  l7 : p.l ≤ 7
  g2 : (p.gamma2 = 95232 ∧ p.w1Bits = 6) ∨ (p.gamma2 = 261888 ∧ p.w1Bits = 4)
  beta : 0 ≤ p.beta ∧ p.beta ≤ 1000

theorem verCfg_44 : VerCfg ml_dsa_44 18 := ⟨sigCfg_44, by decide, by decide, by decide, by decide⟩
theorem verCfg_65 : VerCfg ml_dsa_65 20 := ⟨sigCfg_65, by decide, by decide, by decide, by decide⟩
theorem verCfg_87 : VerCfg ml_dsa_87 20 := ⟨sigCfg_87, by decide, by decide, by decide, by decide⟩

theorem VerCfg.G2 {p : ParamSet} {blz : Nat} (cfg : VerCfg p blz) : p.gamma2 = 95232 ∨ p.gamma2 = 261888 := cfg.g2.imp And.left And.left

theorem VerCfg.w1Bits_eq {p : ParamSet} {blz : Nat} (cfg : VerCfg p blz) : Spec.bitlen ((8380417 - 1) / (2 * p.gamma2) - 1) = p.w1Bits := by
  rcases cfg.g2 with ⟨h, h2⟩ | ⟨h, h2⟩ <;> rw [h, h2] <;> decide

theorem pkLen_of_mem : ∀ p ∈ [ml_dsa_44, ml_dsa_65, ml_dsa_87], p.pkLen = 32 + 32 * p.k * blqd := by decide

/-- the facts about a parameter set that key generation, signing and verification rely on;
    `blz` / `bl` = bits per coefficient of `z` / of `s1`, `s2` in the signature / private-key encoding -/
structure ParamCfg (m : Mode) (p : ParamSet) (blz bl : Nat) : Prop where
  ver : VerCfg p blz
  k : 1 ≤ p.k ∧ p.k ≤ 8
  eta : p.eta = 2 ∨ p.eta = 4
  etaBits : bitLen m (2 * p.eta) = .ok bl
  etaBitlen : Spec.bitlen (2 * p.eta) = bl
  pkLen : p.pkLen = 32 + 32 * p.k * blqd
  skLen : p.skLen = 128 + 32 * ((p.k + p.l) * bl + D.toNat * p.k)

theorem paramCfg_of_mem (m : Mode) (p : ParamSet) (hp : p ∈ [ml_dsa_44, ml_dsa_65, ml_dsa_87]) : ∃ blz bl, ParamCfg m p blz bl := by
  simp only [List.mem_cons, List.mem_nil_iff, or_false] at hp
  rcases hp with rfl | rfl | rfl
  · exact ⟨18, 3, verCfg_44, by decide, Or.inl rfl, bitLen_eq m _ (by decide) (by decide), by decide, by decide, by decide⟩
  · exact ⟨20, 4, verCfg_65, by decide, Or.inr rfl, bitLen_eq m _ (by decide) (by decide), by decide, by decide, by decide⟩
  · exact ⟨20, 3, verCfg_87, by decide, Or.inl rfl, bitLen_eq m _ (by decide) (by decide), by decide, by decide, by decide⟩

end Fips204.Impl
