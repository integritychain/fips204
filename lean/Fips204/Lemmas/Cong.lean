import Fips204.Lemmas.Kernels
import Fips204.Lemmas.Vec
/-! Congruence modulo q, for integers and elementwise for lists: the relation between what the crate's lazily reduced `i32` arithmetic holds
    and the exact value it stands for.  The two constants `2^-32` (Montgomery reduction) and `F_MONT * 2^-32` (the scaling after the last
    inverse layer) with the one cancellation each that the pipelines use; the centred representative `mod±`. -/
namespace Fips204.Impl
open Fips204 Fips204.Gen Fips204.K

/-- `a ≡ b (mod q)` -/
def cg (a b : Int) : Prop := (a - b) % 8380417 = 0

theorem cg.refl (a : Int) : cg a a := by unfold cg; simp
theorem cg.symm {a b : Int} (h : cg a b) : cg b a := by unfold cg at *; omega
theorem cg.trans {a b c : Int} (h1 : cg a b) (h2 : cg b c) : cg a c := by unfold cg at *; omega
theorem cg.add {a a' b b' : Int} (h1 : cg a a') (h2 : cg b b') : cg (a + b) (a' + b') := by unfold cg at *; omega
theorem cg.sub {a a' b b' : Int} (h1 : cg a a') (h2 : cg b b') : cg (a - b) (a' - b') := by unfold cg at *; omega
theorem cg.of_eq {a b : Int} (h : a = b) : cg a b := by rw [h]; exact cg.refl b

theorem cg.mul_left (k : Int) {a b : Int} (h : cg a b) : cg (k * a) (k * b) := by
  unfold cg at *
  obtain ⟨t, ht⟩ := Int.dvd_of_emod_eq_zero h
  have : k * a - k * b = 8380417 * (k * t) := by
    have : k * a - k * b = k * (a - b) := by rw [Int.mul_sub]
    rw [this, ht]; grind
  rw [this]; exact Int.mul_emod_right _ _

theorem cg.mul_right (k : Int) {a b : Int} (h : cg a b) : cg (a * k) (b * k) := by
  rw [Int.mul_comm a k, Int.mul_comm b k]; exact h.mul_left k

theorem cg.mul {a a' b b' : Int} (h : cg a a') (h' : cg b b') : cg (a * b) (a' * b') :=
  (h.mul_right b).trans (h'.mul_left a')

theorem cg.sq {a b : Int} (h : cg a b) : cg (a * a) (b * b) := h.mul h

theorem cg_mod (a : Int) : cg (a % 8380417) a := by unfold cg; omega
theorem cg.mod_right {a b : Int} (h : cg a b) : cg a (b % 8380417) := h.trans (cg_mod b).symm

/-- `2^-32 mod q` -/
def RINV : Int := 8265825

/-- `F_MONT * 2^-32 mod q`, the scaling applied after the last inverse layer -/
def FS : Int := 16382 * 8265825

theorem rr_one (x : Int) : cg (x * 4294967296 * RINV) x := by unfold cg RINV; omega

theorem fs_scale (x : Int) : cg (FS * (2 ^ 8 * x)) x := by unfold cg FS; omega

theorem montv_cg (a : Int) (h1 : -17996808479301632 ≤ a) (h2 : a ≤ 17996808470921215) : cg (montv a) (a * RINV) := by
  have := (montv_spec a h1 h2).1
  unfold cg RINV
  omega

theorem pr64s_cg (x : Int) (h1 : -67058539 < x) (h2 : x < 67058539) : cg (pr64s x) (x * 4294967296) :=
  (pr64s_spec x h1 h2).1

theorem cg_unmont (x : Int) (h1 : -67000000 ≤ x) (h2 : x ≤ 67000000) : cg (montv (pr64s x)) x := by
  have s := pr64s_spec x (by omega) (by omega)
  exact (montv_cg (pr64s x) (by omega) (by omega)).trans (((pr64s_cg x (by omega) (by omega)).mul_right RINV).trans (rr_one x))

def CongL (u v : List Int) : Prop := u.length = v.length ∧ ∀ i (h1 : i < u.length) (h2 : i < v.length), cg u[i] v[i]

theorem CongL.nil : CongL [] [] := ⟨rfl, fun i h => by simp at h⟩

theorem CongL.cons {a b : Int} {as bs : List Int} (h : cg a b) (t : CongL as bs) : CongL (a :: as) (b :: bs) :=
  ⟨by simp [t.1], fun i h1 h2 => by
    cases i with
    | zero => exact h
    | succ j => simp only [List.getElem_cons_succ]; exact t.2 j (by simpa using h1) (by simpa using h2)⟩

theorem CongL.uncons {a b : Int} {as bs : List Int} (h : CongL (a :: as) (b :: bs)) : cg a b ∧ CongL as bs :=
  ⟨h.2 0 (by simp) (by simp), by have := h.1; simp at this; exact this, fun i h1 h2 => by
    have := h.2 (i + 1) (by simp; omega) (by simp; omega)
    simpa using this⟩

theorem CongL.refl (u : List Int) : CongL u u := ⟨rfl, fun _ _ _ => cg.refl _⟩
theorem CongL.symm {u v : List Int} (h : CongL u v) : CongL v u := ⟨h.1.symm, fun i h1 h2 => (h.2 i h2 h1).symm⟩
theorem CongL.trans {u v w : List Int} (h1 : CongL u v) (h2 : CongL v w) : CongL u w :=
  ⟨h1.1.trans h2.1, fun i a b => (h1.2 i a (by rw [← h1.1]; exact a)).trans (h2.2 i (by rw [← h1.1]; exact a) b)⟩

theorem CongL.take {u v : List Int} (h : CongL u v) (n : Nat) : CongL (u.take n) (v.take n) :=
  ⟨by rw [List.length_take, List.length_take, h.1], fun i h1 h2 => by
    rw [List.getElem_take, List.getElem_take]
    exact h.2 i (by rw [List.length_take] at h1; omega) (by rw [List.length_take] at h2; omega)⟩

theorem CongL.drop {u v : List Int} (h : CongL u v) (n : Nat) : CongL (u.drop n) (v.drop n) :=
  ⟨by rw [List.length_drop, List.length_drop, h.1], fun i h1 h2 => by
    rw [List.getElem_drop, List.getElem_drop]
    exact h.2 (n + i) (by rw [List.length_drop] at h1; omega) (by rw [List.length_drop] at h2; omega)⟩

theorem CongL.append {u v u' v' : List Int} (h : CongL u v) (h' : CongL u' v') : CongL (u ++ u') (v ++ v') :=
  ⟨by rw [List.length_append, List.length_append, h.1, h'.1], fun i h1 h2 => by
    by_cases hi : i < u.length
    · rw [List.getElem_append_left hi, List.getElem_append_left (by rw [← h.1]; exact hi)]
      exact h.2 i hi (by rw [← h.1]; exact hi)
    · rw [List.getElem_append_right (by omega), List.getElem_append_right (by rw [← h.1]; omega)]
      have e : i - v.length = i - u.length := by rw [h.1]
      simp only [e]
      rw [List.length_append] at h1 h2
      exact h'.2 (i - u.length) (by omega) (by rw [← h.1] at h2; omega)⟩

theorem CongL.map_on {u v : List Int} (h : CongL u v) (g g' : Int → Int) (P : Int → Prop) (hu : ∀ a ∈ u, P a)
    (hg : ∀ a b, P a → cg a b → cg (g a) (g' b)) : CongL (u.map g) (v.map g') :=
  ⟨by rw [List.length_map, List.length_map, h.1], fun i h1 h2 => by
    rw [List.length_map] at h1 h2
    rw [List.getElem_map, List.getElem_map]
    exact hg _ _ (hu _ (List.getElem_mem h1)) (h.2 i h1 h2)⟩

theorem CongL.map {u v : List Int} (h : CongL u v) (g g' : Int → Int) (hg : ∀ a b, cg a b → cg (g a) (g' b)) :
    CongL (u.map g) (v.map g') :=
  h.map_on g g' (fun _ => True) (fun _ _ => trivial) (fun a b _ => hg a b)

theorem CongL.zipWith {u v u' v' : List Int} (h : CongL u v) (h' : CongL u' v') (g g' : Int → Int → Int)
    (hg : ∀ a b a' b', cg a b → cg a' b' → cg (g a a') (g' b b')) : CongL (List.zipWith g u u') (List.zipWith g' v v') :=
  ⟨by rw [List.length_zipWith, List.length_zipWith, h.1, h'.1], fun i h1 h2 => by
    rw [List.getElem_zipWith, List.getElem_zipWith]
    rw [List.length_zipWith] at h1 h2
    exact hg _ _ _ _ (h.2 i (by omega) (by omega)) (h'.2 i (by omega) (by omega))⟩

theorem can_eq_of_cong (u v : List Int) (h : CongL u v) (hu : Res u) (hv : Res v) : u = v := by
  apply List.ext_getElem h.1
  intro i h1 h2
  have := h.2 i h1 h2
  have a := hu u[i] (List.getElem_mem _)
  have b := hv v[i] (List.getElem_mem _)
  unfold cg at this
  omega

def canon (l : List Int) : List Int := l.map (fun x => x % 8380417)

theorem canon_can (l : List Int) : Res (canon l) := by
  intro x hx
  obtain ⟨y, _, rfl⟩ := List.mem_map.mp hx
  show 0 ≤ y % 8380417 ∧ y % 8380417 ≤ 8380416
  omega

theorem canon_cong (l : List Int) : CongL (canon l) l := by
  unfold canon
  exact ⟨by simp, fun i h1 h2 => by rw [List.getElem_map]; exact cg_mod _⟩

theorem canon_eq_of_cong (u v : List Int) (h : CongL u v) (hv : Res v) : canon u = v :=
  can_eq_of_cong _ _ ((canon_cong u).trans h) (canon_can u) hv

theorem map_rr_one (w : List Int) : CongL ((w.map (fun x => x * 4294967296)).map (fun x => x * RINV)) w := by
  refine ⟨by simp, fun i g1 g2 => ?_⟩
  simp only [List.getElem_map]
  exact rr_one _

theorem map_fs_256 (w : List Int) : CongL ((w.map (fun x => 2 ^ 8 * x)).map (fun x => FS * x)) w := by
  refine ⟨by simp, fun i g1 g2 => ?_⟩
  simp only [List.getElem_map]
  exact fs_scale _

theorem modpm_small (e : Int) (h : -4190208 ≤ e ∧ e ≤ 4190208) : modpm Q e = e := by
  unfold modpm
  simp only [Q]
  split <;> omega

theorem cg_modpm (x : Int) : cg (modpm Q x) x := by
  unfold cg modpm; simp only [Q]; split <;> omega

theorem modpm_abs (x : Int) : -4190208 ≤ modpm Q x ∧ modpm Q x ≤ 4190208 := by
  unfold modpm; simp only [Q]; split <;> omega

end Fips204.Impl
