import Fips204.Impl.Pack
import Fips204.Lemmas.Monad
/-! The lists the hint codec (Algorithms 20, 21) is about; apart from `countOnes_eq` no function of the crate or of the standard occurs here.  A hint polynomial and
    the increasing list of its non-zero positions determine each other (`setOnes`, `nzI`).  A hint section is the concatenation of such
    lists, zero padding up to `om`, and the running ends of the lists (`layout`); cutting a byte string at given ends (`slices`) and taking
    the ends of consecutive lists (`ends`) are inverse to each other.  So the polynomials read from a section (`polysOf`, under the tests
    `wfB`, `padB`) and the section written for a hint vector (`yOf`) are inverse: `yOf_polysOf`, `polysOf_yOf`. -/
namespace Fips204.Impl
open Fips204 Fips204.Gen

def ones (p : Poly) : Nat := (p.filter (fun e => e = 1)).length

theorem ones_set_le (p : Poly) (i : Nat) : ones (p.set i 1) ≤ ones p + 1 := by
  unfold ones
  rw [← List.countP_eq_length_filter, ← List.countP_eq_length_filter]
  by_cases h : i < p.length
  · rw [List.countP_set h, if_pos (show decide ((1 : Int) = 1) = true from rfl)]
    omega
  · rw [List.set_eq_of_length_le (Nat.le_of_not_lt h)]
    omega

theorem ones_replicate_zero (n : Nat) : ones (List.replicate n (0 : Int)) = 0 := by
  rw [ones, List.filter_replicate]
  rfl

def Bin (p : Poly) : Prop := p.length = 256 ∧ ∀ x ∈ p, x = 0 ∨ x = 1

theorem Bin.set {p : Poly} (h : Bin p) (i : Nat) : Bin (p.set i 1) :=
  ⟨by rw [List.length_set]; exact h.1, fun x hx => by
    rcases List.mem_or_eq_of_mem_set hx with hx | rfl
    · exact h.2 x hx
    · exact Or.inr rfl⟩

theorem zeroPoly_bin : Bin zeroPoly :=
  ⟨zeroPoly_length, fun _ hx => Or.inl (eq_zero_of_mem_zeroPoly hx)⟩

theorem foldl_add_eq_ones : ∀ (q : List Int), (∀ x ∈ q, x = 0 ∨ x = 1) → ∀ s : Int, q.foldl (· + ·) s = s + (ones q : Nat) := by
  intro q
  induction q with
  | nil => intro _ s; simp [ones]
  | cons a as ih =>
    intro h s
    rw [List.foldl_cons, ih (fun x hx => h x (List.mem_cons_of_mem _ hx))]
    unfold ones
    rcases h a (List.mem_cons_self ..) with rfl | rfl
    · simp
    · simp
      omega

/-- the crate's count `r.0.iter().filter(|&&e| e == 1).sum::<i32>()` is the number of ones -/
theorem countOnes_eq (p : Poly) : countOnes p = ones p := by
  rw [countOnes, foldl_add_eq_ones _ (fun x hx => Or.inr (by simpa using (List.mem_filter.mp hx).2)), ones, ones, List.filter_filter, Int.zero_add]
  simp only [Bool.and_self]

def onesAll (h : List Poly) : Nat := (h.map ones).foldl (· + ·) 0

theorem onesAll_eq_sum (h : List Poly) : onesAll h = (h.map ones).sum := List.sum_eq_foldl.symm

theorem onesAll_cons (q : Poly) (h : List Poly) : onesAll (q :: h) = ones q + onesAll h := by
  rw [onesAll_eq_sum, onesAll_eq_sum, List.map_cons, List.sum_cons]

theorem onesAll_reverse (h : List Poly) : onesAll h.reverse = onesAll h := by
  rw [onesAll_eq_sum, onesAll_eq_sum, List.map_reverse, List.sum_reverse]

theorem ones_le_onesAll (h : List Poly) : ∀ q ∈ h, ones q ≤ onesAll h := by
  induction h with
  | nil => intro q hq; simp at hq
  | cons p ps ih =>
    intro q hq
    rw [onesAll_cons]
    rcases List.mem_cons.mp hq with rfl | hq
    · omega
    · have := ih q hq; omega

theorem onesAll_le (h : List Poly) (hb : ∀ q ∈ h, Bin q) : onesAll h ≤ h.length * 256 := by
  induction h with
  | nil => simp [onesAll]
  | cons q qs ih =>
    rw [onesAll_cons, List.length_cons, Nat.add_mul, Nat.one_mul]
    have : ones q ≤ 256 := (hb q (List.mem_cons_self ..)).1 ▸ List.length_filter_le (fun e => decide (e = 1)) q
    have := ih (fun x hx => hb x (List.mem_cons_of_mem _ hx))
    omega

def setOnes (seg : List Nat) (base : Poly) : Poly := seg.foldl (fun p c => p.set c 1) base

theorem setOnes_length (seg : List Nat) : ∀ base : Poly, (setOnes seg base).length = base.length := by
  induction seg with
  | nil => intro base; rfl
  | cons c cs ih => intro base; unfold setOnes; rw [List.foldl_cons]; exact (ih _).trans (List.length_set ..)

theorem setOnes_bin : ∀ (seg : List Nat) (hp : Poly), Bin hp → Bin (setOnes seg hp)
  | [], _, h => h
  | c :: cs, hp, h => setOnes_bin cs (hp.set c 1) (h.set c)

theorem setOnes_getD (seg : List Nat) : ∀ (base : Poly) (j : Nat),
    (setOnes seg base).getD j 0 = if j ∈ seg ∧ j < base.length then 1 else base.getD j 0 := by
  induction seg with
  | nil => intro base j; simp [setOnes]
  | cons c cs ih =>
    intro base j
    rw [show setOnes (c :: cs) base = setOnes cs (base.set c 1) from rfl, ih, List.length_set, List.getD_eq_getElem?_getD, List.getElem?_set,
      List.getD_eq_getElem?_getD]
    by_cases hc : c = j
    · subst hc
      by_cases hl : c < base.length
      · simp [hl]
      · simp [hl]
    · have : j ≠ c := fun h => hc h.symm
      simp [hc, this]

/-- indices the encoder's inner loop writes for a list of (index, coefficient) pairs -/
def nzIdx (L : List (Nat × Int)) : List Nat := (L.filter (fun je => decide (je.2 ≠ 0))).map (·.1)

theorem nzIdx_cons (j : Nat) (e : Int) (L : List (Nat × Int)) :
    nzIdx ((j, e) :: L) = if e ≠ 0 then j :: nzIdx L else nzIdx L := by
  unfold nzIdx
  by_cases h : e = 0
  · simp [h]
  · simp [h]

def nzI (p : Poly) : List Nat := nzIdx (List.zip (List.range 256) p)

theorem mem_nzI (p : Poly) (hp : p.length = 256) (c : Nat) : c ∈ nzI p ↔ c < 256 ∧ p.getD c 0 ≠ 0 := by
  have hz : (List.zip (List.range 256) p).length = 256 := by rw [List.length_zip, List.length_range, hp, Nat.min_self]
  simp only [nzI, nzIdx, List.mem_map, List.mem_filter, decide_eq_true_eq]
  constructor
  · rintro ⟨⟨j, e⟩, ⟨hm, he⟩, rfl⟩
    obtain ⟨i, hi, hx⟩ := List.mem_iff_getElem.mp hm
    rw [List.getElem_zip, List.getElem_range] at hx
    cases hx
    rw [hz] at hi
    exact ⟨hi, by rw [← List.getElem_eq_getD (h := by omega)]; exact he⟩
  · rintro ⟨h, he⟩
    refine ⟨(c, p.getD c 0), ⟨List.mem_iff_getElem.mpr ⟨c, by omega, ?_⟩, he⟩, rfl⟩
    rw [List.getElem_zip, List.getElem_range, List.getElem_eq_getD 0]

theorem nzI_lt (p : Poly) (hp : p.length = 256) : ∀ c ∈ nzI p, c < 256 := fun c hc => ((mem_nzI p hp c).mp hc).1

/-- they increase: `nzI p` is a sublist of `0, .., 255` -/
theorem nzI_pairwise (p : Poly) (hp : p.length = 256) : List.Pairwise (· < ·) (nzI p) := by
  have h := (List.filter_sublist (p := fun je : Nat × Int => decide (je.2 ≠ 0)) (l := List.zip (List.range 256) p)).map Prod.fst
  rw [List.map_fst_zip (by rw [List.length_range, hp]; exact Nat.le_refl _)] at h
  exact List.Pairwise.sublist h List.pairwise_lt_range

theorem nzI_len_ones (p : Poly) (hp : Bin p) : (nzI p).length = ones p := by
  have := List.filter_map (f := Prod.snd) (p := fun e : Int => decide (e ≠ 0)) (l := List.zip (List.range 256) p)
  rw [List.map_snd_zip (by rw [List.length_range, hp.1]; exact Nat.le_refl _)] at this
  rw [ones, ← List.filter_congr (p := fun e : Int => decide (e ≠ 0)) (fun x hx => by rcases hp.2 x hx with h | h <;> simp [h]), this,
    List.length_map, nzI, nzIdx, List.length_map]
  rfl

theorem zeroPoly_getD (j : Nat) : zeroPoly.getD j 0 = 0 := by
  rw [zeroPoly, List.getD_eq_getElem?_getD, List.getElem?_replicate]
  split <;> rfl

theorem setOnes_nzI (p : Poly) (hp : Bin p) : setOnes (nzI p) zeroPoly = p := by
  refine List.ext_getElem (by rw [setOnes_length, zeroPoly_length, hp.1]) fun j _ h2 => ?_
  rw [List.getElem_eq_getD 0, setOnes_getD, zeroPoly_getD, zeroPoly_length]
  have hj : j < 256 := hp.1 ▸ h2
  rcases hp.2 _ (List.getElem_mem h2) with h | h
  · rw [h, if_neg (fun hh => ((mem_nzI p hp.1 j).mp hh.1).2 (by rw [← List.getElem_eq_getD (h := h2) 0, h]))]
  · rw [h, if_pos ⟨(mem_nzI p hp.1 j).mpr ⟨hj, by rw [← List.getElem_eq_getD (h := h2) 0, h]; decide⟩, hj⟩]

theorem pairwise_lt_ext (l₁ l₂ : List Nat) (h1 : List.Pairwise (· < ·) l₁) (h2 : List.Pairwise (· < ·) l₂) (h : ∀ x, x ∈ l₁ ↔ x ∈ l₂) : l₁ = l₂ :=
  List.Perm.eq_of_pairwise (le := (· < ·)) (fun _ _ _ _ hab hba => absurd hab (Nat.lt_asymm hba)) h1 h2
    ((List.perm_ext_iff_of_nodup (h1.imp Nat.ne_of_lt) (h2.imp Nat.ne_of_lt)).mpr h)

/-- the non-zero positions of the polynomial built from an increasing segment are that segment: both lists increase and have the
    same members -/
theorem nzI_setOnes (seg : List Nat) (hs : List.Pairwise (· < ·) seg) (hb : ∀ c ∈ seg, c < 256) : nzI (setOnes seg zeroPoly) = seg := by
  have hlen : (setOnes seg zeroPoly).length = 256 := by rw [setOnes_length, zeroPoly_length]
  refine pairwise_lt_ext _ _ (nzI_pairwise _ hlen) hs fun x => ?_
  rw [mem_nzI _ hlen, setOnes_getD, zeroPoly_getD, zeroPoly_length]
  constructor
  · rintro ⟨_, h⟩
    by_cases hm : x ∈ seg
    · exact hm
    · rw [if_neg (fun hh => hm hh.1)] at h
      exact absurd rfl h
  · intro hm
    exact ⟨hb x hm, by rw [if_pos ⟨hm, hb x hm⟩]; decide⟩

theorem getD_nat_of_lt (y : List Nat) (i : Nat) (h : i < y.length) : y.getD i 0 = y[i] := (List.getElem_eq_getD 0).symm

/-- the test the inner loop makes at positions `index ≤ j < limit`: after the first, each byte exceeds its predecessor -/
def incB (y : List Nat) (first index limit : Nat) : Bool :=
  (List.range' index (limit - index)).all (fun j => decide (j ≤ first) || decide (y.getD (j - 1) 0 < y.getD j 0))

theorem incB_iff (y : List Nat) (first index limit : Nat) :
    incB y first index limit = true ↔ ∀ j, index ≤ j → j < limit → j ≤ first ∨ y.getD (j - 1) 0 < y.getD j 0 := by
  simp only [incB, List.all_eq_true, List.mem_range'_1, Bool.or_eq_true, decide_eq_true_eq]
  exact ⟨fun h j h1 h2 => h j ⟨h1, by omega⟩, fun h j hj => h j hj.1 (by omega)⟩

theorem inc_lt (y : List Nat) (lo hi : Nat) (hinc : ∀ j, lo < j → j < hi → y.getD (j - 1) 0 < y.getD j 0) :
    ∀ d, lo + d + 1 < hi → y.getD lo 0 < y.getD (lo + d + 1) 0 := by
  intro d
  induction d with
  | zero => intro h; have := hinc (lo + 1) (by omega) (by omega); simpa using this
  | succ d ih =>
    intro h
    have h1 := ih (by omega)
    have h2 := hinc (lo + (d + 1) + 1) (by omega) h
    have e : lo + (d + 1) + 1 - 1 = lo + d + 1 := by omega
    rw [e] at h2
    omega

/-- **the test on a stretch says that it increases**: adjacent bytes increase, so all do -/
theorem incB_iff_pairwise (y : List Nat) (s e : Nat) (h1 : s ≤ e) (h2 : e ≤ y.length) :
    incB y s s e = true ↔ List.Pairwise (· < ·) ((y.drop s).take (e - s)) := by
  have hg : ∀ i (hi : i < ((y.drop s).take (e - s)).length), ((y.drop s).take (e - s))[i] = y.getD (s + i) 0 := fun i hi => by
    rw [List.length_take, List.length_drop] at hi
    rw [List.getElem_take, List.getElem_drop, getD_nat_of_lt y _ (by omega)]
  have hl : ((y.drop s).take (e - s)).length = e - s := by
    rw [List.length_take, List.length_drop]
    omega
  rw [incB_iff, List.pairwise_iff_getElem]
  constructor
  · intro h i j hi hj hij
    rw [hg i hi, hg j hj]
    rw [hl] at hj
    have := inc_lt y (s + i) e (fun j h1 h2 => (h j (by omega) h2).resolve_left (by omega)) (j - i - 1) (by omega)
    rwa [show s + i + (j - i - 1) + 1 = s + j by omega] at this
  · intro h j _ hj2
    by_cases hj : j ≤ s
    · exact Or.inl hj
    · have := h (j - 1 - s) (j - s) (by rw [hl]; omega) (by rw [hl]; omega) (by omega)
      rw [hg, hg, show s + (j - 1 - s) = j - 1 by omega, show s + (j - s) = j by omega] at this
      exact Or.inr this


def slices (y : List Nat) : Nat → List Nat → List (List Nat)
  | _, [] => []
  | s, e :: es => (y.drop s).take (e - s) :: slices y e es

def ends : Nat → List (List Nat) → List Nat
  | _, [] => []
  | s, l :: ls => (s + l.length) :: ends (s + l.length) ls

theorem ends_length : ∀ (ls : List (List Nat)) (s : Nat), (ends s ls).length = ls.length
  | [], _ => rfl
  | _ :: ls, _ => by rw [ends, List.length_cons, List.length_cons, ends_length ls]

theorem slices_length (y : List Nat) : ∀ (es : List Nat) (s : Nat), (slices y s es).length = es.length
  | [], _ => rfl
  | _ :: es, _ => by rw [slices, List.length_cons, List.length_cons, slices_length y es]

theorem getLastD_ends : ∀ (ls : List (List Nat)) (s : Nat), (ends s ls).getLastD s = s + ls.flatten.length
  | [], _ => rfl
  | l :: ls, s => by rw [ends, List.getLastD_cons, getLastD_ends ls, List.flatten_cons, List.length_append, Nat.add_assoc]

theorem ends_le : ∀ (ls : List (List Nat)) (s : Nat), ∀ x ∈ ends s ls, x ≤ s + ls.flatten.length
  | [], _, x, hx => nomatch hx
  | l :: ls, s, x, hx => by
    rw [List.flatten_cons, List.length_append]
    rcases List.mem_cons.mp hx with rfl | hx
    · omega
    · have := ends_le ls _ x hx
      omega

theorem take_drop_mid {α} (pre l post : List α) : ((pre ++ (l ++ post)).drop pre.length).take l.length = l := by
  rw [List.drop_left' rfl, List.take_left' rfl]

theorem slices_ends : ∀ (ls : List (List Nat)) (pre post : List Nat),
    slices (pre ++ ls.flatten ++ post) pre.length (ends pre.length ls) = ls
  | [], _, _ => rfl
  | l :: ls, pre, post => by
    have e : pre ++ (l :: ls).flatten ++ post = (pre ++ l) ++ ls.flatten ++ post := by
      rw [List.flatten_cons, List.append_assoc pre l]
    rw [ends, slices, Nat.add_sub_cancel_left]
    congr 1
    · rw [List.append_assoc, List.flatten_cons, List.append_assoc, take_drop_mid]
    · rw [e, ← List.length_append]
      exact slices_ends ls (pre ++ l) post

theorem take_drop_add {α} (y : List α) (a b c : Nat) (h1 : a ≤ b) (h2 : b ≤ c) :
    (y.drop a).take (b - a) ++ (y.drop b).take (c - b) = (y.drop a).take (c - a) := by
  rw [show c - a = (b - a) + (c - b) by omega, List.take_add, List.drop_drop, show a + (b - a) = b by omega]

/-- the tests of the decoder's loops on the stretches from `s` on that end at `es`: ends do not decrease, do not exceed `om`, each
    stretch increases -/
def wfB (y : List Nat) (om : Nat) : Nat → List Nat → Bool
  | _, [] => true
  | s, e :: es => decide (s ≤ e ∧ e ≤ om) && incB y s s e && wfB y om e es

theorem wfB_cons (y : List Nat) (om s e : Nat) (es : List Nat) :
    wfB y om s (e :: es) = true ↔ (s ≤ e ∧ e ≤ om) ∧ incB y s s e = true ∧ wfB y om e es = true := by
  simp only [wfB, Bool.and_eq_true, decide_eq_true_eq, and_assoc]

theorem slices_wf (y : List Nat) (om : Nat) (hob : om ≤ y.length) : ∀ (es : List Nat) (s : Nat), wfB y om s es = true →
    s ≤ es.getLastD s ∧ (s ≤ om → es.getLastD s ≤ om) ∧ (slices y s es).flatten = (y.drop s).take (es.getLastD s - s) ∧
      ends s (slices y s es) = es
  | [], s, _ => ⟨Nat.le_refl _, fun h => h, by rw [List.getLastD_nil, Nat.sub_self, List.take_zero]; rfl, rfl⟩
  | e :: es, s, h => by
    obtain ⟨⟨h1, h2⟩, _, h4⟩ := (wfB_cons ..).mp h
    obtain ⟨a1, a2, a3, a4⟩ := slices_wf y om hob es e h4
    have hsl : ((y.drop s).take (e - s)).length = e - s := by
      rw [List.length_take, List.length_drop]
      omega
    rw [List.getLastD_cons, slices, List.flatten_cons, a3, take_drop_add y _ _ _ h1 a1, ends, hsl, show s + (e - s) = e by omega, a4]
    exact ⟨by omega, fun _ => a2 h2, rfl, rfl⟩

/-- the polynomials Algorithm 21 builds: one per stretch, ones at the positions the stretch lists -/
def polysOf (y : List Nat) (s : Nat) (es : List Nat) : List Poly := (slices y s es).map (setOnes · zeroPoly)

theorem polysOf_bin (y : List Nat) (s : Nat) (es : List Nat) : (polysOf y s es).length = es.length ∧ ∀ q ∈ polysOf y s es, Bin q := by
  refine ⟨by rw [polysOf, List.length_map, slices_length], fun q hq => ?_⟩
  obtain ⟨l, _, rfl⟩ := List.mem_map.mp hq
  exact setOnes_bin l zeroPoly zeroPoly_bin

theorem nzI_polysOf (y : List Nat) (hy : ∀ b ∈ y, b < 256) (om : Nat) (hob : om ≤ y.length) : ∀ (es : List Nat) (s : Nat),
    wfB y om s es = true → (polysOf y s es).map nzI = slices y s es
  | [], _, _ => rfl
  | e :: es, s, h => by
    obtain ⟨⟨h1, h2⟩, h3, h4⟩ := (wfB_cons ..).mp h
    rw [polysOf, slices, List.map_cons, List.map_cons, ← polysOf, nzI_polysOf y hy om hob es e h4,
      nzI_setOnes _ ((incB_iff_pairwise y s e h1 (by omega)).mp h3) (fun c hc => hy c (mem_of_mem_slice _ _ _ _ hc))]

/-- the padding test of Algorithm 21: the bytes from `e` up to `om` are zero -/
def padB (y : List Nat) (e om : Nat) : Bool := !(List.range (om - e)).any (fun d => decide (y.getD (e + d) 0 ≠ 0))

theorem padB_iff (y : List Nat) (e om : Nat) : padB y e om = true ↔ ∀ p, e ≤ p → p < om → y.getD p 0 = 0 := by
  simp only [padB, Bool.not_eq_true', List.any_eq_false, List.mem_range, decide_eq_true_eq, Decidable.not_not]
  constructor
  · intro h p h1 h2
    have := h (p - e) (by omega)
    rwa [show e + (p - e) = p by omega] at this
  · intro h d hd
    exact h (e + d) (by omega) (by omega)


/-- a hint section for the index lists `ls`: the lists one after the other, zeros up to `om`, the ends of the lists -/
def layout (om : Nat) (ls : List (List Nat)) : List Nat := ls.flatten ++ List.replicate (om - ls.flatten.length) 0 ++ ends 0 ls

/-- the byte string Algorithm 20 writes for `h` -/
def yOf (om : Nat) (h : List Poly) : List Nat := layout om (h.map nzI)

theorem layout_length (om : Nat) (ls : List (List Nat)) (hs : ls.flatten.length ≤ om) : (layout om ls).length = om + ls.length := by
  unfold layout
  rw [List.length_append, List.length_append, List.length_replicate, ends_length]
  omega

theorem layout_lt (om : Nat) (hom : om < 256) (ls : List (List Nat)) (hb : ∀ l ∈ ls, ∀ c ∈ l, c < 256) (hs : ls.flatten.length ≤ om) :
    ∀ b ∈ layout om ls, b < 256 := by
  intro b hb'
  unfold layout at hb'
  rcases List.mem_append.mp hb' with hb' | hb'
  · rcases List.mem_append.mp hb' with hb' | hb'
    · obtain ⟨l, hl, hbl⟩ := List.mem_flatten.mp hb'
      exact hb l hl b hbl
    · have := List.eq_of_mem_replicate hb'
      omega
  · have := ends_le ls 0 b hb'
    omega

theorem layout_counts (om : Nat) (ls : List (List Nat)) (hs : ls.flatten.length ≤ om) :
    ((layout om ls).drop om).take ls.length = ends 0 ls := by
  unfold layout
  rw [List.drop_left' (by rw [List.length_append, List.length_replicate]; omega), List.take_of_length_le (by rw [ends_length]; exact Nat.le_refl _)]

theorem wfB_ends (om : Nat) : ∀ (ls : List (List Nat)) (pre post : List Nat), (∀ l ∈ ls, List.Pairwise (· < ·) l) →
    pre.length + ls.flatten.length ≤ om → wfB (pre ++ ls.flatten ++ post) om pre.length (ends pre.length ls) = true
  | [], _, _, _, _ => rfl
  | l :: ls, pre, post, hp, hle => by
    rw [List.flatten_cons, List.length_append] at hle
    have e : pre ++ (l :: ls).flatten ++ post = (pre ++ l) ++ ls.flatten ++ post := by
      rw [List.flatten_cons, List.append_assoc pre l]
    rw [ends, wfB_cons]
    refine ⟨by omega, ?_, ?_⟩
    · rw [incB_iff_pairwise _ _ _ (Nat.le_add_right ..) (by simp only [List.length_append, List.flatten_cons]; omega), Nat.add_sub_cancel_left,
        List.append_assoc, List.flatten_cons, List.append_assoc, take_drop_mid]
      exact hp l (List.mem_cons_self ..)
    · rw [e, ← List.length_append]
      exact wfB_ends om ls (pre ++ l) post (fun x hx => hp x (List.mem_cons_of_mem _ hx)) (by rw [List.length_append]; omega)

theorem layout_slices (y : List Nat) (om k : Nat) (hlen : y.length = om + k) (hwf : wfB y om 0 ((y.drop om).take k) = true)
    (hpad : padB y (((y.drop om).take k).getLastD 0) om = true) : layout om (slices y 0 ((y.drop om).take k)) = y := by
  obtain ⟨_, hend, e1, e2⟩ := slices_wf y om (by omega) _ 0 hwf
  have hend := hend (Nat.zero_le _)
  generalize ((y.drop om).take k).getLastD 0 = last at hend e1 hpad
  have hz : List.replicate (om - last) 0 = (y.drop last).take (om - last) := by
    apply List.ext_getElem
    · rw [List.length_replicate, List.length_take, List.length_drop]
      omega
    · intro i h1 h2
      rw [List.length_replicate] at h1
      rw [List.getElem_replicate, List.getElem_take, List.getElem_drop, ← getD_nat_of_lt y _ (by omega)]
      exact ((padB_iff ..).mp hpad _ (by omega) (by omega)).symm
  unfold layout
  rw [e1, e2, List.drop_zero, Nat.sub_zero, List.length_take, Nat.min_eq_left (by omega), hz, ← List.take_add,
    show last + (om - last) = om by omega, List.take_of_length_le (l := y.drop om) (by rw [List.length_drop]; omega), List.take_append_drop]

theorem slices_layout (om : Nat) (ls : List (List Nat)) (hp : ∀ l ∈ ls, List.Pairwise (· < ·) l) (hs : ls.flatten.length ≤ om) :
    wfB (layout om ls) om 0 (ends 0 ls) = true ∧ padB (layout om ls) ((ends 0 ls).getLastD 0) om = true ∧
      slices (layout om ls) 0 (ends 0 ls) = ls := by
  have e : layout om ls = [] ++ ls.flatten ++ (List.replicate (om - ls.flatten.length) 0 ++ ends 0 ls) := by
    rw [layout, List.nil_append, List.append_assoc]
  refine ⟨?_, ?_, ?_⟩
  · rw [e]
    exact wfB_ends om ls [] _ hp (by rw [List.length_nil, Nat.zero_add]; exact hs)
  · rw [getLastD_ends, Nat.zero_add, padB_iff]
    intro p h1 h2
    unfold layout
    rw [List.getD_eq_getElem?_getD, List.append_assoc, List.getElem?_append_right h1,
      List.getElem?_append_left (by rw [List.length_replicate]; omega), List.getElem?_replicate, if_pos (by omega)]
    rfl
  · rw [e]
    exact slices_ends ls [] _

theorem flatten_nzI_length (h : List Poly) (hb : ∀ q ∈ h, Bin q) : ((h.map nzI).flatten).length = onesAll h := by
  induction h with
  | nil => rfl
  | cons p ps ih =>
    rw [List.map_cons, List.flatten_cons, List.length_append, ih (fun q hq => hb q (List.mem_cons_of_mem _ hq)),
      nzI_len_ones p (hb p (List.mem_cons_self ..)), onesAll_cons]

theorem yOf_polysOf (y : List Nat) (hy : ∀ b ∈ y, b < 256) (om k : Nat) (hlen : y.length = om + k)
    (hwf : wfB y om 0 ((y.drop om).take k) = true) (hpad : padB y (((y.drop om).take k).getLastD 0) om = true) :
    yOf om (polysOf y 0 ((y.drop om).take k)) = y := by
  rw [yOf, nzI_polysOf y hy om (by omega) _ 0 hwf, layout_slices y om k hlen hwf hpad]

theorem polysOf_yOf (om : Nat) (h : List Poly) (hb : ∀ q ∈ h, Bin q) (hsum : onesAll h ≤ om) :
    ((yOf om h).drop om).take h.length = ends 0 (h.map nzI) ∧ wfB (yOf om h) om 0 (ends 0 (h.map nzI)) = true ∧
      padB (yOf om h) ((ends 0 (h.map nzI)).getLastD 0) om = true ∧ polysOf (yOf om h) 0 (ends 0 (h.map nzI)) = h := by
  have hs : ((h.map nzI).flatten).length ≤ om := by rw [flatten_nzI_length h hb]; exact hsum
  obtain ⟨g1, g2, g3⟩ := slices_layout om (h.map nzI)
    (fun l hl => by obtain ⟨q, hq, rfl⟩ := List.mem_map.mp hl; exact nzI_pairwise q (hb q hq).1) hs
  have hc := layout_counts om (h.map nzI) hs
  rw [List.length_map] at hc
  refine ⟨hc, g1, g2, ?_⟩
  rw [polysOf, yOf, g3, List.map_map]
  exact (List.map_congr_left fun q hq => setOnes_nzI q (hb q hq)).trans (List.map_id _)

theorem yOf_length (om : Nat) (h : List Poly) (hb : ∀ q ∈ h, Bin q) (hsum : onesAll h ≤ om) : (yOf om h).length = om + h.length := by
  rw [yOf, layout_length om _ (by rw [flatten_nzI_length h hb]; exact hsum), List.length_map]

theorem yOf_lt (om : Nat) (hom : om < 256) (h : List Poly) (hb : ∀ q ∈ h, Bin q) (hsum : onesAll h ≤ om) : ∀ b ∈ yOf om h, b < 256 :=
  layout_lt om hom _ (fun l hl => by obtain ⟨q, hq, rfl⟩ := List.mem_map.mp hl; exact nzI_lt q (hb q hq).1)
    (by rw [flatten_nzI_length h hb]; exact hsum)

/-- write the listed bytes from position `idx` on (`j % 256`: the crate writes `j.to_le_bytes()[0]`) -/
def wr : List Nat → Nat → List Nat → List Nat
  | Y, _, [] => Y
  | Y, idx, j :: js => wr (Y.set idx (j % 256)) (idx + 1) js

theorem wr_length : ∀ (js : List Nat) (Y : List Nat) (idx : Nat), (wr Y idx js).length = Y.length := by
  intro js
  induction js with
  | nil => intro Y idx; rfl
  | cons j js ih => intro Y idx; unfold wr; rw [ih, List.length_set]

theorem wr_zeros : ∀ (js A B : List Nat) (n : Nat), js.length ≤ n → (∀ j ∈ js, j < 256) →
    wr (A ++ List.replicate n 0 ++ B) A.length js = A ++ js ++ List.replicate (n - js.length) 0 ++ B := by
  intro js
  induction js with
  | nil => intro A B n _ _; simp [wr]
  | cons j js ih =>
    intro A B n hn hj
    obtain ⟨n, rfl⟩ : ∃ n', n = n' + 1 := ⟨n - 1, by simp only [List.length_cons] at hn; omega⟩
    have hset : (A ++ List.replicate (n + 1) 0 ++ B).set A.length (j % 256) = (A ++ [j]) ++ List.replicate n 0 ++ B := by
      rw [Nat.mod_eq_of_lt (hj j (List.mem_cons_self ..)), List.replicate_succ, List.append_assoc, List.set_append_right _ _ (Nat.le_refl _)]
      simp
    unfold wr
    rw [hset, show A.length + 1 = (A ++ [j]).length by simp,
      ih (A ++ [j]) B n (by simpa using hn) (fun x hx => hj x (List.mem_cons_of_mem _ hx))]
    simp

theorem ends_snoc : ∀ (ps : List (List Nat)) (s : Nat) (l : List Nat), ends s (ps ++ [l]) = ends s ps ++ [s + (ps ++ [l]).flatten.length]
  | [], s, l => by simp [ends]
  | q :: qs, s, l => by
    rw [List.cons_append, ends, ends, ends_snoc qs, List.flatten_cons, List.length_append]
    simp [Nat.add_assoc]

/-- the buffer after the lists `ps` (of `k`) have been written -/
def yPart (om k : Nat) (ps : List (List Nat)) : List Nat := layout om ps ++ List.replicate (k - ps.length) 0

/-- one pass of the encoder's outer loop: the list `l` goes into the zeros after the lists written so far, its end into the next count byte -/
theorem yPart_step (om k : Nat) (ps : List (List Nat)) (l : List Nat) (hl : ∀ c ∈ l, c < 256) (hs : (ps ++ [l]).flatten.length ≤ om) (hk : ps.length < k) :
    (wr (yPart om k ps) ps.flatten.length l).set (om + ps.length) ((ps ++ [l]).flatten.length) = yPart om k (ps ++ [l]) := by
  have hfl : (ps ++ [l]).flatten = ps.flatten ++ l := by simp
  rw [hfl, List.length_append] at hs
  unfold yPart layout
  rw [List.append_assoc (ps.flatten ++ _), wr_zeros l ps.flatten _ _ (by omega) hl, ends_snoc, Nat.zero_add,
    hfl, List.length_append, List.length_append, List.length_singleton, show k - ps.length = (k - (ps.length + 1)) + 1 by omega,
    List.replicate_succ]
  have hpos : om + ps.length = (ps.flatten ++ l ++ List.replicate (om - ps.flatten.length - l.length) 0 ++ ends 0 ps).length := by
    simp only [List.length_append, List.length_replicate, ends_length]
    omega
  rw [← List.append_assoc, hpos, List.set_append_right _ _ (Nat.le_refl _), Nat.sub_self, List.set_cons_zero]
  simp [Nat.sub_sub]

theorem yPart_nil (om k : Nat) : yPart om k [] = List.replicate (om + k) 0 := by
  simp [yPart, layout, ends, List.replicate_append_replicate]

theorem yPart_full (om : Nat) (ps : List (List Nat)) : yPart om ps.length ps = layout om ps := by
  rw [yPart, Nat.sub_self, List.replicate_zero, List.append_nil]

/-- strictly increasing bytes on `[lo, hi)` of `y`, as the decoder checks them, in `getElem` form.  No lemma is about it: the lemmas
    of this file use the `getD` form of `incB_iff`. -/
def IncOn (y : List Nat) (lo hi : Nat) : Prop := ∀ j, lo < j → j < hi → ∀ (h1 : j - 1 < y.length) (h2 : j < y.length), y[j - 1] < y[j]

end Fips204.Impl
