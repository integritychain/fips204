import Fips204.Lemmas.NttMul
import Fips204.Lemmas.NttRound
/-! The implementation's transform / pointwise-multiply / inverse-transform pipeline computes negacyclic products
    modulo q: `c * s` for the signer's `c s1`, `c s2`, `c t0`. -/
namespace Fips204.Impl
open Fips204 Fips204.Gen Fips204.K

theorem pointwise_unmont (A B : List Int) :
    CongL (List.zipWith (fun c x => c * x * RINV) A (B.map (fun x => x * 4294967296))) (List.zipWith (fun x y => x * y) A B) := by
  refine ⟨by rw [List.length_zipWith, List.length_zipWith, List.length_map], fun i h1 h2 => ?_⟩
  rw [List.getElem_zipWith, List.getElem_zipWith, List.getElem_map, Int.mul_assoc]
  exact (rr_one _).mul_left _

/-- **one product `c * s` through the lazy pipeline**: `inv_ntt(mont_reduce(c_hat ∘ to_mont(ntt(s))))`, for `c_hat` the transform of
    `c`, is the negacyclic product modulo q, as canonical residues, without overflow -/
theorem mulPoly_eq (m : Mode) (site : String) (c ch s : Poly) (lc : c.length = 256) (ls : s.length = 256)
    (bch : Bnd 34284028 ch) (cch : CongL ch (nttS 8 1 c)) (hs : Bnd 524288 s) :
    (nttPoly m s >>= fun a => a.mapM (to_mont_coeff m) >>= fun sh =>
        zipWithM (fun c x => do let p ← arith .i64 m site (c * x); mont_reduce m p) ch sh >>= invNttPoly m) = .ok (cmul c s) := by
  obtain ⟨a, ha, ba, ca⟩ := nttPoly_sem m s s (CongL.refl s) hs
  obtain ⟨hsh, bsh, csh⟩ := mapM_to_mont_coeff m a _ (ba.mono (by decide)) ca
  obtain ⟨pr, hpr, bpr, cpr⟩ := zipWithM_sem (fun c x => do let p ← arith .i64 m site (c * x); mont_reduce m p) (fun c x => c * x * RINV)
    (fun c => -34284028 ≤ c ∧ c ≤ 34284028) (fun x => -16760833 ≤ x ∧ x ≤ 16760833) (fun r => -2143289343 ≤ r ∧ r ≤ 2143289343)
    (fun c1 x1 hc1 hx1 => by
      obtain ⟨e, b, c⟩ := montmul_eq m site c1 x1 34284028 16760833 hc1 hx1 (by decide)
      exact ⟨_, e, by omega, fun s1 _ cc cx => c.trans (((cc.mul_right x1).trans (cx.mul_left s1)).mul_right RINV)⟩)
    ch _ (a.map pr64s) _ cch csh bch bsh
  -- the product list is congruent to the pointwise product of the two transforms, which is the transform of the product
  obtain ⟨r, hr, br, cr⟩ := invNttPoly_of_nttS m pr (negMul c s) (negMul_length c s lc ls)
    ((cpr.trans (pointwise_unmont _ _)).trans (nttS_negMul c s lc ls).symm) bpr
  rw [ha, ok_bind, hsh, ok_bind, hpr, ok_bind, hr, can_eq_of_cong r (cmul c s) (cr.trans (canon_cong _).symm) br (canon_can _)]

/-- **`c * s_i` for a whole vector, as the signer computes it**: `ntt(c)`, the stored `to_mont(ntt(s))`, `mulInv` -/
theorem mulInv_eq (m : Mode) (site : String) (c : Poly) (s : List Poly) (lc : c.length = 256) (hc : Bnd 524288 c)
    (hs : ∀ q ∈ s, q.length = 256 ∧ Bnd 524288 q) :
    ∃ ch sh, nttPoly m c = .ok ch ∧ nttMont m s = .ok sh ∧ mulInv m site ch sh = .ok (s.map (cmul c)) := by
  obtain ⟨ch, hch, bch, cch⟩ := nttPoly_sem m c c (CongL.refl c) hc
  -- one fused pass per polynomial (`mulPoly_eq`), then split it into the four passes of `nttMont` and `mulInv`
  have hr := mapM_pure _ (cmul c) s (fun p hp => mulPoly_eq m site c ch p lc (hs p hp).1 bch cch (hs p hp).2)
  obtain ⟨a, ha, hr⟩ := mapM_fuse _ _ s _ hr
  obtain ⟨sh, hsh, hr⟩ := mapM_fuse _ _ a _ hr
  obtain ⟨pr, hpr, hr⟩ := mapM_fuse _ _ sh _ hr
  refine ⟨ch, sh, hch, ?_, ?_⟩
  · unfold nttMont ntt toMont
    rw [ha, ok_bind]
    exact hsh
  · unfold mulInv invNtt
    rw [hpr, ok_bind]
    exact hr

/-- `sum_j a_j * y_j` in `Z[X]/(X^256 + 1)`, accumulated onto `P` -/
def sumProd : List Poly → List Poly → Poly → Poly
  | a :: as, y :: ys, P => sumProd as ys (List.zipWith (fun a b => a + b) P (negMul a y))
  | _, _, P => P

/-- the matrix row (NTT domain, canonical) and the polynomials it represents -/
def RowA : List Poly → List Poly → Prop
  | [], [] => True
  | ah :: row, a :: as => (Res ah ∧ a.length = 256 ∧ CongL ah (nttS 8 1 a)) ∧ RowA row as
  | _, _ => False

/-- `sum_j A_hat_j ∘ NTT(y_j)`, coefficientwise, accumulated onto `P` -/
def rowS : List Poly → List Poly → Poly → Poly
  | a :: as, y :: ys, P => rowS as ys (List.zipWith (fun p q => p + q) P (List.zipWith (fun x y => x * y) a (nttS 8 1 y)))
  | _, _, P => P

theorem rowS_acc_length : ∀ (row us : List Poly) (P : Poly), P.length = 256 → (∀ a ∈ row, a.length = 256) → (∀ u ∈ us, u.length = 256) →
    (rowS row us P).length = 256 := by
  intro row
  induction row with
  | nil => intro us P hP _ _; simp only [rowS]; exact hP
  | cons a as ih =>
    intro us P hP ha hu
    cases us with
    | nil => simp only [rowS]; exact hP
    | cons u us =>
      rw [rowS]
      refine ih us _ ?_ (fun b hb => ha b (List.mem_cons_of_mem _ hb)) (fun b hb => hu b (List.mem_cons_of_mem _ hb))
      rw [List.length_zipWith, List.length_zipWith, hP, ha a (List.mem_cons_self ..),
        nttS_length 8 1 u (by rw [hu u (List.mem_cons_self ..)])]
      rfl

theorem rowS_length (row us : List Poly) (hrow : ∀ a ∈ row, a.length = 256) (hus : ∀ u ∈ us, u.length = 256) :
    (rowS row us zeroPoly).length = 256 :=
  rowS_acc_length row us zeroPoly zeroPoly_length hrow hus

theorem rowP_rowS : ∀ (row um ys : List Poly) (acc P : List Int), (∀ p ∈ row, Res p) → StoredV um ys → CongL acc P →
    CongL (rowP (row.zip um) acc) (rowS row ys P) := by
  intro row
  induction row with
  | nil =>
    intro um ys acc P _ _ hc
    simpa [rowS, rowP_nil] using hc
  | cons ah row ih =>
    intro um ys acc P hr hS hc
    match um, ys, hS with
    | [], [], _ => simpa [rowS, rowP_nil] using hc
    | u :: um', y :: ys', hS =>
      obtain ⟨hs, hS'⟩ := hS.uncons
      rw [List.zip_cons_cons, rowP_cons, rowS]
      exact ih um' ys' _ _ (fun p hp => hr p (List.mem_cons_of_mem _ hp)) hS'
        (acc_step_cong acc P ah ah u (nttS 8 1 y) hc (CongL.refl ah) hs.2 (hr ah (List.mem_cons_self ..)) hs.1)
    | [], _ :: _, hS => exact nomatch hS.1
    | _ :: _, [], hS => exact nomatch hS.1

theorem RowA.res : ∀ {row as : List Poly}, RowA row as → ∀ p ∈ row, Res p
  | [], [], _, p, hp => by simp at hp
  | _ :: _, _ :: _, h, p, hp => by
    rcases List.mem_cons.mp hp with rfl | hp
    · exact h.1.1
    · exact h.2.res p hp

/-- for a row representing `as`, the NTT-domain accumulation `rowS` is the transform of `sum_j a_j * y_j`; `rowS` and `sumProd` both
    stop at the shorter list, so no length needs to be assumed -/
theorem rowS_sumProd : ∀ (row as ys : List Poly) (P' P : List Int), RowA row as → (∀ y ∈ ys, y.length = 256) →
    CongL P' (nttS 8 1 P) → P.length = 256 →
    CongL (rowS row ys P') (nttS 8 1 (sumProd as ys P)) ∧ (sumProd as ys P).length = 256
  | [], [], ys, P', P, _, _, hc, hl => ⟨by simpa [rowS, sumProd] using hc, by simpa [sumProd] using hl⟩
  | _ :: _, _ :: _, [], P', P, _, _, hc, hl => ⟨by simpa [rowS, sumProd] using hc, by simpa [sumProd] using hl⟩
  | ah :: row, a :: as, y :: ys, P', P, h, hy, hc, hl => by
    obtain ⟨⟨_, r3, r5⟩, hrest⟩ := h
    have r4 := hy y (List.mem_cons_self ..)
    have hnl := negMul_length a y r3 r4
    have hPl : (List.zipWith (fun a b => a + b) P (negMul a y)).length = 256 := by rw [List.length_zipWith, hl, hnl]; rfl
    -- `P' + a_hat ∘ NTT(y) ≡ NTT(P) + NTT(a) ∘ NTT(y) ≡ NTT(P + a y)`
    have step : CongL (List.zipWith (fun p q => p + q) P' (List.zipWith (fun x y => x * y) ah (nttS 8 1 y)))
        (nttS 8 1 (List.zipWith (fun a b => a + b) P (negMul a y))) :=
      (hc.zipWith ((r5.zipWith (CongL.refl _) _ _ (fun _ _ _ _ h1 h2 => h1.mul h2)).trans (nttS_negMul a y r3 r4).symm) _ _
        (fun _ _ _ _ h1 h2 => h1.add h2)).trans (nttS_add P (negMul a y) hl hnl).symm
    rw [rowS, sumProd]
    exact rowS_sumProd row as ys _ _ hrest (fun q hq => hy q (List.mem_cons_of_mem _ hq)) step hPl
  | [], _ :: _, _, _, _, h, _, _, _ => h.elim
  | _ :: _, [], _, _, _, h, _, _, _ => h.elim

/-- **one row of `invNTT(A_hat ∘ NTT(y))`** (the signer's commitment, key generation's `A s1`): the lazy
    transform / multiply-accumulate / inverse-transform pipeline returns `sum_j a_j * y_j` in `Z_q[X]/(X^256 + 1)`, as
    canonical residues, for any canonical row `A_hat` representing the polynomials `a_j` and any vector `y` with
    coefficients up to `2^19` -/
theorem commitment_row_sem (m : Mode) (row as ys : List Poly) (hr : RowA row as) (hn : row.length ≤ 7)
    (hy : ∀ y ∈ ys, y.length = 256 ∧ Bnd 524288 y) :
    ∃ yh r w, ntt m ys = .ok yh ∧ matVecMul m [row] yh = .ok [r] ∧ invNttPoly m r = .ok w ∧
      Res w ∧ CongL w (sumProd as ys zeroPoly) := by
  obtain ⟨yh, hyh, byh⟩ := ntt_ok m ys (fun w hw => (hy w hw).2)
  have hres := hr.res
  have ha : ∀ rw ∈ [row], rw.length ≤ 7 ∧ ∀ p ∈ rw, Res p := fun rw hrw => by
    rw [List.mem_singleton.mp hrw]; exact ⟨hn, hres⟩
  have bsy : ∀ w ∈ yh, Bnd 67000000 w := fun w hw => (byh w hw).mono (by omega)
  have hpure := matVecMul_eq m [row] yh 7 ha bsy (by omega)
  have hrel := toMontP_ntt_stored m ys yh hyh (fun y h => (hy y h).2)
  -- the accumulated row is `rowS` (NTT domain), which is the transform of `sum_j a_j * y_j`
  obtain ⟨hc, hsl⟩ := rowS_sumProd row as ys zeroPoly zeroPoly hr (fun y h => (hy y h).1) nttS_zero zeroPoly_length
  have hc := (rowP_rowS row (toMontP yh) ys zeroPoly zeroPoly hres hrel (CongL.refl _)).trans hc
  have hb : Bnd 2143289343 (rowP (row.zip (toMontP yh)) zeroPoly) :=
    (rowP_bnd row _ 7 hres (toMontP_bnd yh bsy) hn).mono (by decide)
  obtain ⟨w, hw, cw, sw⟩ := invNttPoly_of_nttS m _ _ hsl hc hb
  exact ⟨yh, _, w, hyh, by rw [hpure]; simp [matP], hw, cw, sw⟩

end Fips204.Impl
