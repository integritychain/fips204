import Fips204.Lemmas.HintLists
import Fips204.Lemmas.KernelsRound
import Fips204.Lemmas.Vec
/-! What the walk through `sign_internal` (`Lemmas/SignSpec`) uses: the hint sum, the accepted outcome of an attempt `AttemptOk`,
    the three per-coefficient steps of an attempt as values. -/
namespace Fips204.Impl
open Fips204 Fips204.Gen Fips204.K

theorem hsum_eq (m : Mode) : ∀ (h : List Poly) (s : Int), (∀ q ∈ h, Bin q) → 0 ≤ s → s + (onesAll h : Nat) ≤ 2147483647 →
    (h.map (fun q => q.foldl (· + ·) 0)).foldlM (fun a b => arith .i32 m "ml_dsa.rs:sign_internal:sum" (a + b)) s = .ok (s + (onesAll h : Nat)) := by
  intro h
  induction h with
  | nil => intro s _ _ _; simp [onesAll, pure_eq]
  | cons q qs ih =>
    intro s hb hs hsum
    rw [onesAll_cons] at hsum ⊢
    rw [List.map_cons, List.foldlM_cons, foldl_add_eq_ones q (hb q (List.mem_cons_self ..)).2 0,
      arith_i32 _ _ _ (by omega) (by omega), ok_bind, ih _ (fun x hx => hb x (List.mem_cons_of_mem _ hx)) (by omega) (by omega)]
    congr 1; omega

theorem VecIn.bin {n : Nat} {h : List Poly} (hh : VecIn n 0 1 h) : ∀ q ∈ h, Bin q :=
  fun q hq => ⟨hh.1.2 q hq, fun x hx => by have := hh.2 q hq x hx; omega⟩

/-- the accepted outcome of one attempt: everything `sig_encode` will assert -/
def AttemptOk (p : ParamSet) (r : Option (List Nat × List Poly × List Poly)) : Prop :=
  ∀ ct z h, r = some (ct, z, h) → ct.length = p.lambdaDiv4 ∧ VecIn p.l (-2143289343) 2143289343 z ∧
    (∀ q ∈ z, ∀ e ∈ q, -(p.gamma1 - 1) ≤ modpm Q e ∧ modpm Q e ≤ p.gamma1) ∧ VecIn p.k 0 1 h ∧ onesAll h ≤ p.omega.toNat

theorem zCoeff_eq (m : Mode) (a b : Int) (ha : -524288 ≤ a ∧ a ≤ 524288) (hb : 0 ≤ b ∧ b ≤ 8380416) :
    (do let s ← arith .i32 m "ml_dsa.rs:sign_internal:y+cs1" (a + b)
        partial_reduce32 m s) = .ok (pr32 (a + b)) := by
  rw [arith_i32 _ _ _ (by omega) (by omega), ok_bind]
  exact partial_reduce32_eq m _ (by omega) (by omega)

theorem r0Coeff_eq (m : Mode) (g : Int) (hg : G2 g) (a b : Int) (ha : 0 ≤ a ∧ a ≤ 8380416) (hb : 0 ≤ b ∧ b ≤ 8380416) :
    (do let s ← arith .i32 m "ml_dsa.rs:sign_internal:w-cs2" (a - b)
        let r ← partial_reduce32 m s
        low_bits m g r) = .ok (Spec.lowBits g (pr32 (a - b))) := by
  have hp := pr32_spec (a - b) (by omega) (by omega)
  rw [arith_i32 _ _ _ (by omega) (by omega), ok_bind, partial_reduce32_eq m _ (by omega) (by omega), ok_bind]
  exact low_bits_eq m g _ hg (by omega) (by omega)

theorem hintCoeff_eq (m : Mode) (g : Int) (hg : G2 g) (a b c0 : Int) (ha : 0 ≤ a ∧ a ≤ 8380416) (hb : 0 ≤ b ∧ b ≤ 8380416)
    (hc : 0 ≤ c0 ∧ c0 ≤ 8380416) :
    (do let qc ← arith .i32 m "ml_dsa.rs:sign_internal:Q-ct0" (Q - c0)
        let s1 ← arith .i32 m "ml_dsa.rs:sign_internal:w-cs2" (a - b)
        let s2 ← arith .i32 m "ml_dsa.rs:sign_internal:w-cs2+ct0" (s1 + c0)
        let r ← partial_reduce32 m s2
        let hb ← make_hint m g qc r
        pure (if hb then (1 : Int) else 0)) = .ok (if Spec.makeHint g (Q - c0) (pr32 (a - b + c0)) then 1 else 0) := by
  have hp := pr32_spec (a - b + c0) (by omega) (by omega)
  simp only [Q] at *
  rw [arith_i32 _ _ _ (by omega) (by omega), ok_bind, arith_i32 _ _ _ (by omega) (by omega), ok_bind,
    arith_i32 _ _ _ (by omega) (by omega), ok_bind, partial_reduce32_eq m _ (by omega) (by omega), ok_bind,
    make_hint_eq m g _ _ hg (by omega) (by omega) (by omega) (by omega), ok_bind, pure_eq]

end Fips204.Impl
