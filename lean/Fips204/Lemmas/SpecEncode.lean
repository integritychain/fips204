import Fips204.Lemmas.Params
import Fips204.Lemmas.SpecCodec
import Fips204.Lemmas.HintCodec
/-! The encodings of `src/encodings.rs` are FIPS 204 Algorithms 22-28 as written (`Spec/Codec.lean`); `sk_decode` is Algorithm 25 followed by
    the range check on `s1`, `s2`.  Each function is characterised once, as `.ok` of the standard's function of the same name. -/
namespace Fips204.Impl
open Fips204 Fips204.Gen

theorem section_le (start step n len i : Nat) (h : start + n * step ≤ len) (hi : i < n) : start + (i + 1) * step ≤ len :=
  Nat.le_trans (Nat.add_le_add_left (Nat.mul_le_mul_right step hi) start) h

theorem seg_lt {bytes : List Nat} {s0 start : Nat} (hb : ∀ x ∈ bytes.drop s0, x < 256) (hs : s0 ≤ start) (step n : Nat) :
    ∀ i ∈ List.range n, ∀ x ∈ seg bytes start step i, x < 256 := by
  intro i _ x hx
  have h' := List.mem_of_mem_take hx
  rw [show start + i * step = s0 + (start - s0 + i * step) by omega, ← List.drop_drop] at h'
  exact hb x (List.mem_of_mem_drop h')

theorem decodeP_section (bytes : List Nat) (start : Nat) (a b : Int) (bl n : Nat) (hlen : start + n * (32 * bl) ≤ bytes.length)
    (hb : ∀ i ∈ List.range n, ∀ x ∈ seg bytes start (32 * bl) i, x < 256) :
    (List.range n).map (fun i => decodeP a b bl (seg bytes start (32 * bl) i)) =
      (List.range n).map (fun i => if a = 0 then Spec.simpleBitUnpack bl ((bytes.drop (start + i * (32 * bl))).take (32 * bl))
        else Spec.bitUnpack bl b ((bytes.drop (start + i * (32 * bl))).take (32 * bl))) :=
  List.map_congr_left fun i hi => by
    have hi' := section_le start (32 * bl) n _ i hlen (List.mem_range.mp hi)
    rw [Nat.add_mul, Nat.one_mul] at hi'
    rw [decodeP_is_spec a b bl _ (hb i hi) (seg_length _ _ _ _ hi')]
    rfl

theorem unpackMany_section {m : Mode} {a b : Int} {bl : Nat} (P : Pair m a b bl) (site : String) (bytes : List Nat) (start n : Nat)
    (hlen : start + n * (32 * bl) ≤ bytes.length) (hb : ∀ i ∈ List.range n, ∀ x ∈ seg bytes start (32 * bl) i, x < 256) :
    unpackMany m site bytes start (32 * bl) a b (List.range n) [] =
      .ok (if ((List.range n).map (fun i => decodeP a b bl (seg bytes start (32 * bl) i))).all (inR a b)
        then some ((List.range n).map (fun i => decodeP a b bl (seg bytes start (32 * bl) i))) else none) := by
  rw [unpackMany_eq P site bytes start _ []
    (fun i hi => section_le start (32 * bl) n _ i hlen (List.mem_range.mp hi)) hb, List.all_map]
  rfl

theorem unpackMany_section_exact {m : Mode} {a b : Int} {bl : Nat} (P : Pair m a b bl) (site : String) (bytes : List Nat) (start n : Nat)
    (hlen : start + n * (32 * bl) ≤ bytes.length) (hb : ∀ i ∈ List.range n, ∀ x ∈ seg bytes start (32 * bl) i, x < 256)
    (hpow : a + b + 1 = 2 ^ bl) :
    unpackMany m site bytes start (32 * bl) a b (List.range n) [] =
      .ok (some ((List.range n).map (fun i => decodeP a b bl (seg bytes start (32 * bl) i)))) := by
  rw [unpackMany_section P site bytes start n hlen hb, if_pos]
  exact List.all_eq_true.mpr fun q hq => (inR_iff ..).mpr ((map_decodeP_exact_in a b bl hpow n _).2 q hq)

theorem section_pack (f : Poly → M (List Nat)) (g : Poly → List Nat) (step n : Nat) (v : List Poly) (hn : v.length = n)
    (hf : ∀ r ∈ v, f r = .ok (g r)) (hg : ∀ r, (g r).length = step) :
    (v.take n).mapM f = .ok (v.map g) ∧ ((v.map g).flatten).length = n * step := by
  rw [List.take_of_length_le (Nat.le_of_eq hn), section_length g step hg v, hn]
  exact ⟨mapM_pure f g v hf, rfl⟩

theorem bitPack_section {m : Mode} {a b : Int} {bl : Nat} (P : Pair m a b bl) (ha : a ≠ 0) (n : Nat) (v : List Poly) (hv : VecIn n (-a) b v) :
    (v.take n).mapM (fun x => bitPack m x a b (32 * bl)) = .ok (v.map (Spec.bitPack bl b)) ∧
      ((v.map (Spec.bitPack bl b)).flatten).length = n * (32 * bl) :=
  section_pack _ _ (32 * bl) n v hv.1.1 (fun r hr => by rw [bitPack_is_spec P r (hv.2 r hr) (hv.1.2 r hr), if_neg ha])
    (fun _ => bitsToBytes_length _ _)

theorem simpleBitPack_eq_bitPack (m : Mode) (w : Poly) (b : Int) (bl : Nat) (hb : 1 ≤ b ∧ b < 1048576) (hbl : bitLen m b = .ok bl)
    (hw : ∀ c ∈ w, 0 ≤ c ∧ c ≤ b) : simpleBitPack m w b (32 * bl) = bitPack m w 0 b (32 * bl) := by
  unfold simpleBitPack
  rw [dassert_dec m _ _ (by simp; omega), ok_bind,
    dassertM_eq m _ _ (isInRange_true m w 0 b (by omega) fun c hc => by have := hw c hc; omega), ok_bind, hbl]
  simp only [ok_bind, pure_eq, beq_self_eq_true, dassertM_true]

theorem simpleBitUnpack_eq_bitUnpack (m : Mode) (v : List Nat) (b : Int) (bl : Nat) (hb : 1 ≤ b ∧ b < 1048576) (hbl : bitLen m b = .ok bl)
    (hlen : v.length = 32 * bl) : simpleBitUnpack m v b = bitUnpack m v 0 b := by
  unfold simpleBitUnpack
  rw [dassert_dec m _ _ (by simp; omega), ok_bind, hbl]
  simp only [ok_bind, pure_eq, hlen, beq_self_eq_true, dassertM_true]

theorem pkDecode_go_eq (m : Mode) (pk : List Nat) : ∀ (is : List Nat) (acc : List Poly), (∀ i ∈ is, 32 + (i + 1) * (32 * 10) ≤ pk.length) →
    pkDecode.go m pk is acc = unpackMany m "encodings.rs:pk_decode:pk[..]" pk 32 (32 * 10) 0 1023 is acc := by
  intro is
  induction is with
  | nil => intro acc _; rfl
  | cons i is ih =>
    intro acc h
    have hi := h i (List.mem_cons_self ..)
    rw [Nat.add_mul, Nat.one_mul] at hi
    unfold pkDecode.go unpackMany
    rw [blqd_eq, t1Max_eq, show 32 + 32 * i * 10 = 32 + i * (32 * 10) from by omega,
      show 32 + 32 * (i + 1) * 10 = 32 + (i + 1) * (32 * 10) from by omega, slice_seg _ pk 32 (32 * 10) i hi, ok_bind, ok_bind,
      simpleBitUnpack_eq_bitUnpack m _ 1023 10 (by omega) (bitLen_1023 m) (seg_length _ _ _ _ hi)]
    cases bitUnpack m (seg pk 32 (32 * 10) i) 0 1023 with
    | error e => rfl
    | ok r =>
      cases r with
      | none => rfl
      | some t => exact ih (t :: acc) (fun j hj => h j (List.mem_cons_of_mem _ hj))

theorem pkLen_eq (k : Nat) : 32 + 32 * k * blqd = 32 + k * (32 * 10) := by
  rw [blqd_eq]
  omega

theorem spec_pkDecode_t1 (k : Nat) (pk : List Nat) (hb : ∀ x ∈ pk.drop 32, x < 256) (hlen : pk.length = 32 + k * (32 * 10)) :
    (Spec.pkDecode k pk).2 = (List.range k).map (fun i => decodeP 0 1023 10 (seg pk 32 (32 * 10) i)) := by
  rw [decodeP_section pk 32 0 1023 10 k (Nat.le_of_eq hlen.symm) (seg_lt hb (Nat.le_refl _) _ _)]
  rfl

theorem spec_pkDecode_in (k : Nat) (pk : List Nat) (hb : ∀ x ∈ pk.drop 32, x < 256) (hlen : pk.length = 32 + k * (32 * 10)) :
    VecIn k 0 1023 (Spec.pkDecode k pk).2 := by
  rw [spec_pkDecode_t1 k pk hb hlen]
  exact map_decodeP_exact_in 0 1023 10 (by decide) k _

/-- **`pk_decode` is FIPS 204 Algorithm 23 (`pkDecode`) as written**, for every byte string of public-key length -/
theorem pkDecode_is_algorithm_23 (m : Mode) (p : ParamSet) (pk : List Nat) (hb : ∀ x ∈ pk.drop 32, x < 256)
    (hlen : pk.length = 32 + 32 * p.k * blqd) (hcfg : p.pkLen = 32 + 32 * p.k * blqd) :
    pkDecode m p pk = .ok (some { rho := (Spec.pkDecode p.k pk).1, t1 := (Spec.pkDecode p.k pk).2 }) := by
  have hl : pk.length = 32 + p.k * (32 * 10) := hlen.trans (pkLen_eq p.k)
  have hgo : pkDecode.go m pk (List.range p.k) [] = .ok (some (Spec.pkDecode p.k pk).2) := by
    rw [pkDecode_go_eq m pk _ [] (fun i hi => section_le 32 (32 * 10) p.k _ i (Nat.le_of_eq hl.symm) (List.mem_range.mp hi)),
      unpackMany_section_exact (pair_t1 m) _ pk 32 p.k (Nat.le_of_eq hl.symm) (seg_lt hb (Nat.le_refl _) _ _) (by decide),
      ← spec_pkDecode_t1 p.k pk hb hl]
  unfold pkDecode
  rw [dassert_dec m _ _ (by simp [hlen]), ok_bind, dassert_dec m _ _ (by simp [hcfg]), ok_bind,
    slice_eq _ pk 0 32 (by omega), ok_bind, hgo, ok_bind]
  dsimp only
  rw [blqd_eq, t1Max_eq, dassertM_eq m _ _ (mapM_isInRange_true m _ 0 1023 (by omega) (spec_pkDecode_in p.k pk hb hl).2), ok_bind, pure_eq]
  rfl

/-- **`pk_encode` is FIPS 204 Algorithm 22 (`pkEncode`) as written**, on every `t1` with coefficients in `[0, 1023]` -/
theorem pkEncode_is_algorithm_22 (m : Mode) (p : ParamSet) (rho : List Nat) (t1 : List Poly) (hr : rho.length = 32)
    (hcfg : p.pkLen = 32 + 32 * p.k * blqd) (hs : Sh p.k t1) (ht : ∀ q ∈ t1, ∀ x ∈ q, 0 ≤ x ∧ x ≤ 1023) :
    pkEncode m p rho t1 = .ok (Spec.pkEncode rho t1) := by
  obtain ⟨hcs, hfl⟩ := section_pack (fun r => simpleBitPack m r 1023 (32 * 10)) (Spec.simpleBitPack 10) (32 * 10) p.k t1 hs.1
    (fun r hr => by
      rw [simpleBitPack_eq_bitPack m r 1023 10 (by omega) (bitLen_1023 m) (ht r hr)]
      rw [bitPack_is_spec (pair_t1 m) r (ht r hr) (hs.2 r hr), if_pos rfl])
    (fun r => bitsToBytes_length _ _)
  unfold pkEncode
  rw [blqd_eq, t1Max_eq, dassertM_eq m _ _ (mapM_isInRange_true m t1 0 1023 (by omega) ht), ok_bind,
    dassert_dec m _ _ (by simp [hcfg, blqd_eq]), ok_bind, if_neg (by omega), hcs, ok_bind]
  dsimp only
  rw [hfl, hcfg, blqd_eq, pure_eq]
  unfold Spec.pkEncode
  rw [show 32 + 32 * p.k * 10 - 32 - p.k * (32 * 10) = 0 by omega, List.replicate_zero, List.append_nil,
    List.take_of_length_le (by rw [List.length_append, hr, hfl]; omega)]

/-- **`w1_encode` is FIPS 204 Algorithm 28 (`w1Encode`) as written**, on every vector of `k` polynomials with coefficients in
    `[0, (q-1)/(2 gamma2) - 1]` (the range of `UseHint`) -/
theorem w1Encode_is_algorithm_28 (m : Mode) (p : ParamSet)
    (hg : (p.gamma2 = 95232 ∧ p.w1Bits = 6) ∨ (p.gamma2 = 261888 ∧ p.w1Bits = 4)) (w1 : List Poly) (hsh : Sh p.k w1)
    (hr : ∀ q ∈ w1, ∀ x ∈ q, 0 ≤ x ∧ x ≤ (Q - 1) / (2 * p.gamma2) - 1) :
    w1Encode m p w1 p.w1Len = .ok (Spec.w1Encode p.w1Bits w1) := by
  obtain ⟨qm, c⟩ := gamma2_facts p hg
  have hq := c.qm
  have hbl := c.bitLen_qm m
  rw [c.div] at hr
  obtain ⟨hcs, hfl⟩ := section_pack (fun r => simpleBitPack m r qm (32 * p.w1Bits)) (Spec.simpleBitPack p.w1Bits) (32 * p.w1Bits) p.k w1 hsh.1
    (fun r hm => by
      rw [simpleBitPack_eq_bitPack m r qm p.w1Bits (by omega) hbl (hr r hm)]
      rw [bitPack_is_spec (c.pair m) r (hr r hm) (hsh.2 r hm), if_pos rfl])
    (fun r => bitsToBytes_length _ _)
  have hlen : p.w1Len = p.k * (32 * p.w1Bits) := by unfold ParamSet.w1Len; rw [Nat.mul_left_comm, Nat.mul_assoc]
  unfold w1Encode
  rw [arith_i32 _ _ _ (by omega) (by omega), ok_bind, if_neg (by omega), c.tdiv, arith_i32 _ _ _ (by omega) (by omega), ok_bind, hbl, ok_bind,
    dassert_dec m _ _ (by simp [ParamSet.w1Len]), ok_bind, dassertM_eq m _ _ (mapM_isInRange_true m w1 0 qm (by omega) hr), ok_bind]
  dsimp only
  rw [hcs, ok_bind, hfl, hlen, if_neg (Nat.lt_irrefl _), Nat.sub_self, pure_eq, List.replicate_zero, List.append_nil]
  rfl

theorem skLen_eq (k l bl : Nat) : 128 + l * (32 * bl) + k * (32 * bl) + k * (32 * 13) = 128 + 32 * ((k + l) * bl + 13 * k) := by
  rw [Nat.mul_left_comm l, Nat.mul_left_comm k 32 bl, Nat.add_mul]
  omega

theorem spec_skDecode_vecs (bl : Nat) (eta : Int) (he : eta ≠ 0) (k l : Nat) (sk : List Nat) (hb : ∀ x ∈ sk.drop 128, x < 256)
    (hlen : sk.length = 128 + l * (32 * bl) + k * (32 * bl) + k * (32 * 13)) :
    (Spec.skDecode bl eta k l sk).2.2.2.1 = (List.range l).map (fun i => decodeP eta eta bl (seg sk 128 (32 * bl) i)) ∧
    (Spec.skDecode bl eta k l sk).2.2.2.2.1 = (List.range k).map (fun i => decodeP eta eta bl (seg sk (128 + l * (32 * bl)) (32 * bl) i)) ∧
    (Spec.skDecode bl eta k l sk).2.2.2.2.2 =
      (List.range k).map (fun i => decodeP 4095 4096 13 (seg sk (128 + l * (32 * bl) + k * (32 * bl)) (32 * 13) i)) := by
  rw [decodeP_section sk 128 eta eta bl l (by omega) (seg_lt hb (by omega) _ _),
    decodeP_section sk _ eta eta bl k (by omega) (seg_lt hb (by omega) _ _),
    decodeP_section sk _ 4095 4096 13 k (by omega) (seg_lt hb (by omega) _ _)]
  simp only [if_neg he, if_neg (show ¬ (4095 : Int) = 0 by decide)]
  exact ⟨rfl, rfl, rfl⟩

/-- **`sk_decode` is FIPS 204 Algorithm 25 (`skDecode`) as written, accepted exactly when every coefficient of `s1` and `s2` lies in
    `[-eta, eta]`** (the check the standard requires of an implementation that accepts keys from outside), for every byte string of
    private-key length -/
theorem skDecode_is_algorithm_25 (m : Mode) (p : ParamSet) (skb : List Nat) (hb : ∀ x ∈ skb.drop 128, x < 256)
    (he : p.eta = 2 ∨ p.eta = 4) (bl : Nat) (hbl : bitLen m (2 * p.eta) = .ok bl)
    (hlen : skb.length = 128 + 32 * ((p.k + p.l) * bl + D.toNat * p.k)) (hcfg : p.skLen = skb.length) :
    skDecode m p skb = .ok (
      let d := Spec.skDecode bl p.eta p.k p.l skb
      if Spec.allInRange p.eta p.eta d.2.2.2.1 && Spec.allInRange p.eta p.eta d.2.2.2.2.1
      then some { rho := d.1, key := d.2.1, tr := d.2.2.1, s1 := d.2.2.2.1, s2 := d.2.2.2.2.1, t0 := d.2.2.2.2.2 } else none) := by
  have P := pair_eta m p.eta bl he hbl
  have hl : skb.length = 128 + p.l * (32 * bl) + p.k * (32 * bl) + p.k * (32 * 13) := by rw [hlen, D_toNat, skLen_eq]
  obtain ⟨e1, e2, e0⟩ := spec_skDecode_vecs bl p.eta (by omega) p.k p.l skb hb hl
  have u1 := unpackMany_section P "encodings.rs:sk_decode:s1" skb 128 p.l (by omega) (seg_lt hb (by omega) _ _)
  have u2 := unpackMany_section P "encodings.rs:sk_decode:s2" skb (128 + p.l * (32 * bl)) p.k (by omega) (seg_lt hb (by omega) _ _)
  have u0 := unpackMany_section_exact (pair_t0 m) "encodings.rs:sk_decode:t0" skb (128 + p.l * (32 * bl) + p.k * (32 * bl)) p.k
    (by omega) (seg_lt hb (by omega) _ _) (by decide)
  rw [← e1] at u1
  rw [← e2] at u2
  rw [← e0] at u0
  unfold skDecode
  dsimp only
  rw [dassert_dec m _ _ (by rcases he with h | h <;> simp [h]), ok_bind, hbl, ok_bind, dassert_dec m _ _ (by simp [hcfg, hlen]), ok_bind,
    slice_eq _ skb 0 32 (by omega), ok_bind, slice_eq _ skb 32 64 (by omega), ok_bind, slice_eq _ skb 64 128 (by omega), ok_bind, u1, ok_bind]
  show _ = Except.ok (if ((Spec.skDecode bl p.eta p.k p.l skb).2.2.2.1.all (inR p.eta p.eta) &&
    (Spec.skDecode bl p.eta p.k p.l skb).2.2.2.2.1.all (inR p.eta p.eta)) = true then _ else none)
  cases (Spec.skDecode bl p.eta p.k p.l skb).2.2.2.1.all (inR p.eta p.eta) with
  | false => rfl
  | true =>
    simp only [if_true, Bool.true_and]
    rw [u2, ok_bind]
    cases (Spec.skDecode bl p.eta p.k p.l skb).2.2.2.2.1.all (inR p.eta p.eta) with
    | false => rfl
    | true =>
      simp only [if_true]
      rw [D_toNat, top_eq, show (4096 : Int) - 1 = 4095 from by decide, u0, ok_bind]
      dsimp only
      rw [dassert_dec m _ _ (by simp [hl]), ok_bind, pure_eq]
      rfl

/-- **`sk_encode` is FIPS 204 Algorithm 24 (`skEncode`) as written**, on every in-range `(s1, s2, t0)` -/
theorem skEncode_is_algorithm_24 (m : Mode) (p : ParamSet) (he : p.eta = 2 ∨ p.eta = 4) (bl : Nat) (hbl : bitLen m (2 * p.eta) = .ok bl)
    (hcfg : p.skLen = 128 + 32 * ((p.k + p.l) * bl + D.toNat * p.k)) (s : SkParts)
    (hr : s.rho.length = 32) (hk : s.key.length = 32) (ht : s.tr.length = 64)
    (h1 : VecIn p.l (-p.eta) p.eta s.s1) (h2 : VecIn p.k (-p.eta) p.eta s.s2) (h0 : VecIn p.k (-(top - 1)) top s.t0) :
    skEncode m p s = .ok (Spec.skEncode bl p.eta s.rho s.key s.tr s.s1 s.s2 s.t0) := by
  have P := pair_eta m p.eta bl he hbl
  rw [top_eq] at h0
  have heta : p.eta ≠ 0 := by omega
  obtain ⟨e1, l1⟩ := bitPack_section P heta p.l s.s1 h1
  obtain ⟨e2, l2⟩ := bitPack_section P heta p.k s.s2 h2
  obtain ⟨e0, l0⟩ := bitPack_section (pair_t0 m) (by decide) p.k s.t0 h0
  unfold skEncode
  dsimp only
  rw [dassert_dec m _ _ (by rcases he with h | h <;> simp [h]), ok_bind,
    dassertM_eq m _ _ (mapM_isInRange_true m s.s1 _ _ (by omega) h1.2), ok_bind,
    dassertM_eq m _ _ (mapM_isInRange_true m s.s2 _ _ (by omega) h2.2), ok_bind, top_eq,
    dassertM_eq m _ _ (mapM_isInRange_true m s.t0 _ _ (by omega) h0.2), ok_bind, hbl, ok_bind,
    dassert_dec m _ _ (by simp [hcfg]), ok_bind, if_neg (by rw [hr, hk, ht]; simp), e1, ok_bind, e2, ok_bind, D_toNat, show (4096 : Int) - 1 = 4095 from rfl, e0, ok_bind,
    if_neg (by
      simp only [List.length_append, hr, hk, ht, l1, l2, l0, hcfg, D_toNat, ne_eq, Decidable.not_not]
      rw [← skLen_eq]), pure_eq]
  rfl

theorem spec_sigDecode_z (lam4 l k omega blz : Nat) (gamma1 : Int) (hg : gamma1 - 1 ≠ 0) (sigma : List Nat) (hb : ∀ x ∈ sigma.drop lam4, x < 256)
    (hlen : lam4 + l * (32 * blz) ≤ sigma.length) :
    (Spec.sigDecode lam4 l k omega blz gamma1 sigma).2.1 =
      (List.range l).map (fun i => decodeP (gamma1 - 1) gamma1 blz (seg sigma lam4 (32 * blz) i)) := by
  rw [decodeP_section sigma lam4 (gamma1 - 1) gamma1 blz l hlen (seg_lt hb (Nat.le_refl _) _ _)]
  simp only [if_neg hg]
  rfl

/-- **`sig_decode` is FIPS 204 Algorithm 27 (`sigDecode`) as written**, for every byte string of signature length, the three parameter sets -/
theorem sigDecode_is_algorithm_27 (m : Mode) (p : ParamSet) (blz : Nat) (cfg : SigCfg p blz) (sigma : List Nat)
    (hb : ∀ x ∈ sigma.drop p.lambdaDiv4, x < 256)
    (hlen : sigma.length = p.sigLen) :
    sigDecode m p sigma = .ok (
      let d := Spec.sigDecode p.lambdaDiv4 p.l p.k p.omega.toNat blz p.gamma1 sigma
      match d.2.2 with
      | none => none
      | some h => some (d.1, d.2.1, h)) := by
  have hg := cfg.gamma1_gt
  have hl := cfg.len
  have hz := unpackMany_section_exact (cfg.pair m) "encodings.rs:sig_decode:z" sigma p.lambdaDiv4 p.l (by omega) (seg_lt hb (Nat.le_refl _) _ _)
    cfg.pow
  rw [← spec_sigDecode_z p.lambdaDiv4 p.l p.k p.omega.toNat blz p.gamma1 (by omega) sigma hb (by omega)] at hz
  unfold sigDecode
  rw [dassertM_eq m _ _ (sigLenOk_true m p blz cfg), ok_bind, slice_eq _ sigma 0 p.lambdaDiv4 (by omega), ok_bind,
    arith_i32 _ _ _ (by omega) (by omega), ok_bind, cfg.bitLen_pred m, ok_bind, Nat.add_comm, cfg.blz_eq]
  dsimp only
  rw [hz, ok_bind]
  dsimp only
  rw [slice_eq _ sigma (p.lambdaDiv4 + p.l * (32 * blz)) sigma.length (by omega), ok_bind,
    List.take_of_length_le (by rw [List.length_drop]; omega),
    hintBitUnpack_is_algorithm_21 m p.k p.omega _
      (fun x hx => hb x (by rw [← List.drop_drop] at hx; exact List.mem_of_mem_drop hx)) cfg.om cfg.omk
      (by rw [List.length_drop]; omega), ok_bind]
  show _ = Except.ok (match Spec.hintBitUnpack p.omega.toNat p.k (sigma.drop (p.lambdaDiv4 + p.l * (32 * blz))) with
    | none => none
    | some h => some (_, _, h))
  cases Spec.hintBitUnpack p.omega.toNat p.k (sigma.drop (p.lambdaDiv4 + p.l * (32 * blz))) <;> rfl

/-- **`sig_encode` is FIPS 204 Algorithm 26 (`sigEncode`) as written**, on every in-range response and every 0/1 hint with at most omega ones -/
theorem sigEncode_is_algorithm_26 (m : Mode) (p : ParamSet) (blz : Nat) (cfg : SigCfg p blz) (ct : List Nat) (z h : List Poly)
    (hct : ct.length = p.lambdaDiv4) (hz : Sh p.l z) (hzr : ∀ q ∈ z, ∀ c ∈ q, -(p.gamma1 - 1) ≤ c ∧ c ≤ p.gamma1)
    (hh : Sh p.k h) (hb : ∀ q ∈ h, Bin q) (hsum : onesAll h ≤ p.omega.toNat) :
    sigEncode m false p ct z h = .ok (Spec.sigEncode blz p.gamma1 p.omega.toNat ct z h) := by
  have hg := cfg.gamma1_gt
  have hl := cfg.len
  obtain ⟨hzs, -⟩ := bitPack_section (cfg.pair m) (by omega) p.l z ⟨hz, hzr⟩
  unfold sigEncode
  rw [arith_i32 _ _ _ (by omega) (by omega), ok_bind, dassertM_eq m _ _ (mapM_isInRange_true m z _ _ (by omega) hzr), ok_bind,
    dassertM_eq m _ _ (mapM_isInRange_true m h 0 1 (by omega) fun q hq c hc => by rcases (hb q hq).2 c hc with h0 | h1 <;> omega), ok_bind,
    dassertM_eq m _ _ (sigLenOk_true m p blz cfg), ok_bind, if_neg (by rw [hct]; exact fun h => h rfl), cfg.bitLen_pred m, ok_bind, cfg.blz_eq]
  dsimp only
  rw [hzs, ok_bind, if_neg (by omega), show p.sigLen - (p.lambdaDiv4 + p.l * (32 * blz)) = p.omega.toNat + p.k by omega,
    hintBitPack_is_algorithm_20 m p.omega h p.k cfg.om hh.1 cfg.omk hb hsum, ok_bind]
  rfl

end Fips204.Impl
