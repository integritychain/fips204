import Fips204.Lemmas.VerifyCore
import Fips204.Lemmas.VerifyOk
/-! `verify_internal` equals Algorithm 8 written with exact arithmetic modulo q (`verifySpec`), on every input. -/
namespace Fips204.Impl
open Fips204 Fips204.Gen Fips204.K

/-- Algorithm 8 (ML-DSA.Verify_internal) with exact arithmetic: the decoder, the samplers and the encoder are the
    model's own (they are literal transcriptions); the arithmetic core is `wApproxS`, `Spec.useHint`, `normInfS` -/
def verifySpec (m : Mode) (O : Oracles) (ctest : Bool) (p : ParamSet) (rho tr : List Nat) (t1 : List Poly)
    (msg sig ctx oid phm : List Nat) (nist : Bool) : M Bool := do
  match ← sigDecode m p sig with
  | none => pure false
  | some (cTilde, z, h) =>
  let mu := muOf O domPure_verify domHash_verify tr msg ctx oid phm nist
  let c ← sampleInBall m O false p.tau cTilde
  let aHat ← expandA m O ctest p rho
  let w1 := List.zipWith (fun hp wp => List.zipWith (fun hh r => Spec.useHint p.gamma2 hh r) hp wp) h (wApproxS aHat z c t1)
  let w1t ← w1Encode m p w1 p.w1Len
  let cTildeP := O.h (mu ++ w1t) p.lambdaDiv4
  pure (decide (normInfS z < p.gamma1 - p.beta) && decide (cTilde = cTildeP))

theorem verifyInternal_eq_spec (m : Mode) (O : Oracles) (hO : OracleOk O) (ctest : Bool) (p : ParamSet) (blz : Nat) (cfg : VerCfg p blz)
    (pk : PublicKey) (t1 : List Poly) (hrho : pk.rho.length = 32) (ht1 : VecIn p.k 0 1023 t1) (hpre : precomputeT1 m t1 = .ok pk.t1d2)
    (msg sig ctx oid phm : List Nat) (nist : Bool) (hb : ∀ x ∈ sig, x < 256) (hlen : sig.length = p.sigLen) :
    verifyInternal m O ctest p pk msg sig ctx oid phm nist = verifySpec m O ctest p pk.rho pk.tr t1 msg sig ctx oid phm nist := by
  unfold verifyInternal verifySpec
  obtain ⟨r, hr, hrp⟩ := sigDecode_pre m cfg sig hb hlen
  rw [hr, ok_bind, ok_bind]
  cases r with
  | none => rfl
  | some t =>
    obtain ⟨ct, z, h⟩ := t
    obtain ⟨_, hz, hh, hn, hn01⟩ := hrp ct z h rfl
    have hg1 := cfg.sig.gamma1_gt
    dsimp only
    rw [dassertM_eq m _ _ (by rw [hn, ok_bind, pure_eq]; simp [hn01.2]), ok_bind]
    refine bind_congr_on (sampleInBall_np m O hO false p.tau ct cfg.tau) (fun c hc => ?_)
    refine bind_congr_on (expandA_np m O hO ctest p pk.rho hrho) (fun aHat hA => ?_)
    obtain ⟨t1d2', hp', hw⟩ := wApproxOf_spec m aHat z c t1 (hA.rows cfg.l7) (hz.mono (by omega) (by omega)).bnd (hc.2.mono (by omega)) ht1.2
    rw [← ok_inj (hpre.symm.trans hp')] at hw
    rw [hw, ok_bind, useHintM_eq m cfg.G2 hh (wApproxS_in p.k aHat z c t1 hA.sh hz.1.2 hc.1 ht1.1), ok_bind, hn]
    have hbeta := cfg.beta
    congr 1
    funext w1t
    rw [ok_bind, arith_i32 _ _ _ (by omega) (by omega), ok_bind]

theorem expandPublic_spec (m : Mode) (O : Oracles) (hO : OracleOk O) (ctest : Bool) (p : ParamSet) (blz : Nat) (cfg : VerCfg p blz)
    (hcfg : p.pkLen = 32 + 32 * p.k * blqd) (pkb : List Nat) (hpb : ∀ x ∈ pkb, x < 256) (hpl : pkb.length = p.pkLen) :
    ∃ pk d, expandPublic m O p pkb = .ok (some pk) ∧ pkDecode m p pkb = .ok (some d) ∧ d.rho.length = 32 ∧ VecIn p.k 0 1023 d.t1 ∧
      ∀ (msg sig ctx oid phm : List Nat) (nist : Bool), (∀ x ∈ sig, x < 256) → sig.length = p.sigLen →
        verifyInternal m O ctest p pk msg sig ctx oid phm nist =
          verifySpec m O ctest p d.rho (O.h pkb 64) d.t1 msg sig ctx oid phm nist := by
  obtain ⟨d, r, hd, hr, h, hrho, vt, _⟩ := expandPublic_eq m O p pkb hpb (by rw [hpl, hcfg]) hcfg
  have hr32 : d.rho.length = 32 := by rw [hrho, List.length_take, hpl, hcfg]; omega
  exact ⟨_, d, h, hd, hr32, vt, fun msg sig ctx oid phm nist hb hlen =>
    verifyInternal_eq_spec m O hO ctest p blz cfg _ d.t1 hr32 vt hr msg sig ctx oid phm nist hb hlen⟩

end Fips204.Impl
