import Fips204.Lemmas.Api
import Fips204.Lemmas.SpecNtt
import Fips204.Lemmas.VerifySpec
/-! `verify_internal` is FIPS 204 Algorithm 8 as the standard writes it (`Spec/MlDsa.lean`), from the public-key bytes. -/
namespace Fips204.Impl
open Fips204 Fips204.Gen Fips204.K

/-- the crate's parameter record as a row of FIPS 204 Table 1 -/
def specParams (p : ParamSet) : Spec.Params :=
  { tau := p.tau.toNat, lambda := p.lambda, gamma1 := p.gamma1, gamma2 := p.gamma2, k := p.k, l := p.l, eta := p.eta, beta := p.beta, omega := p.omega.toNat }

/-- lines 2-13 of Algorithm 8 on a decoded public key `(ρ, t1)` and `tr` -/
def specCore (P : Spec.Params) (H G : List Nat → Nat → List Nat) (nG nH : Nat) (rho : List Nat) (t1 : List Poly) (tr Mp sigma : List Nat) : Option Bool :=
  let d := Spec.sigDecode (P.lambda / 4) P.l P.k P.omega (1 + Spec.bitlen (P.gamma1 - 1)) P.gamma1 sigma
  match d.2.2 with
  | none => some false
  | some h =>
    match Spec.expandA (fun x => G x nG) P.k P.l rho with
    | none => none
    | some aHat =>
      match Spec.sampleInBall P.tau (H d.1 nH) with
      | none => none
      | some c =>
        let w1 := List.zipWith (fun hp wp => List.zipWith (fun hh r => Spec.useHint P.gamma2 hh r) hp wp) h (Spec.wApprox aHat d.2.1 c t1)
        some (decide (Spec.infNorm d.2.1 < P.gamma1 - P.beta) &&
          decide (d.1 = H (H (tr ++ Mp) 64 ++ Spec.w1Encode (Spec.bitlen ((8380417 - 1) / (2 * P.gamma2) - 1)) w1) (P.lambda / 4)))

theorem spec_verifyInternal_eq_core (P : Spec.Params) (H G : List Nat → Nat → List Nat) (nG nH : Nat) (pk Mp sigma : List Nat) :
    Spec.verifyInternal P H G nG nH pk Mp sigma =
      specCore P H G nG nH (Spec.pkDecode P.k pk).1 (Spec.pkDecode P.k pk).2 (H pk 64) Mp sigma := rfl

theorem verifySpec_is_core (m : Mode) (O : Oracles) (hO : OracleOk O) (p : ParamSet) (blz : Nat) (cfg : VerCfg p blz)
    (rho tr : List Nat) (t1 : List Poly) (hrho : rho.length = 32) (ht1 : VecIn p.k 0 1023 t1)
    (msg sig ctx oid phm : List Nat) (nist : Bool) (hb : ∀ x ∈ sig, x < 256) (hlen : sig.length = p.sigLen) :
    AgreesWith (verifySpec m O false p rho tr t1 msg sig ctx oid phm nist)
      (specCore (specParams p) O.h O.g (1680 * O.fuelScale) (8 + 1360 * O.fuelScale) rho t1 tr (Spec.formatted nist msg ctx oid phm) sig) := by
  obtain ⟨r, hr, hrp⟩ := sigDecode_pre m cfg sig hb hlen
  have hsd := sigDecode_is_algorithm_27 m p blz cfg.sig sig (fun x hx => hb x (List.mem_of_mem_drop hx)) hlen
  rw [hsd] at hr
  have hrr := ok_inj hr
  unfold verifySpec specCore specParams
  simp only [cfg.sig.blz_eq, cfg.w1Bits_eq]
  rw [hsd, ok_bind]
  simp only [ParamSet.lambdaDiv4] at hrr ⊢
  -- the hint part decides the first branch
  cases hh : (Spec.sigDecode _ _ _ _ _ _ _).2.2 with
  | none => exact rfl
  | some h =>
    simp only [hh] at hrr ⊢
    obtain ⟨_, hz, hh', _⟩ := hrp _ _ h hrr.symm
    rw [muOf_formatted O domPure_verify domHash_verify rfl rfl]
    rw [sampleInBall_is_algorithm_29 m O hO p.tau _ cfg.tau, expandA_is_algorithm_32 m O hO p rho hrho]
    cases hsb : Spec.sampleInBall _ _ with
    | none => cases Spec.expandA _ _ _ _ <;> exact ⟨_, rfl⟩
    | some c =>
      cases hea : Spec.expandA _ _ _ _ with
      | none => exact ⟨_, rfl⟩
      | some aHat =>
        simp only [ofSpec, ok_bind]
        have hA := spec_expandA_in _ p.k p.l rho aHat hea
        have hc := spec_sampleInBall_bnd p.tau.toNat (by have := cfg.tau; omega) _ c hsb
        have hW := useHint_in cfg.G2 hh' (wApproxS_in p.k aHat _ c t1 (MatIn.sh hA) hz.1.2 hc.1 ht1.1)
        rw [wApproxS_is_spec] at hW
        -- w1 is in the range of UseHint, so w1Encode is the standard's
        rw [wApproxS_is_spec, normInfS_is_spec, w1Encode_is_algorithm_28 m p cfg.g2 _ hW.1 hW.2, ok_bind, pure_eq]
        rfl

end Fips204.Impl
