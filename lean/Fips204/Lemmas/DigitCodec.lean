import Fips204.Lemmas.Monad
/-!
  Little-endian positional values of digit lists (base `P`): the value `numF` of a list and the digits `digits` of a number are
  inverse to each other on fixed-length representations.  On top of them the coefficient codec of Algorithms 16-19 as pure functions
  of the little-endian number of their input: `decodeP` reads the base-`2^bitlen` digits of a byte string, `encodeP` writes the bytes
  of the number whose digits are the fields.  They are inverse to each other because `digits` and `numF` are.
-/
namespace Fips204.Impl

def numF (P : Nat) : List Nat → Nat
  | [] => 0
  | d :: ds => d + P * numF P ds

theorem numF_append (P : Nat) (l1 l2 : List Nat) : numF P (l1 ++ l2) = numF P l1 + P ^ l1.length * numF P l2 := by
  induction l1 with
  | nil => simp [numF]
  | cons d ds ih => simp only [List.cons_append, numF, ih, List.length_cons, Nat.pow_succ]; grind

theorem numF_snoc (P : Nat) (l : List Nat) (x : Nat) : numF P (l ++ [x]) = numF P l + x * P ^ l.length := by
  rw [numF_append, Nat.mul_comm]
  simp [numF]

theorem numF_lt (P : Nat) : ∀ l : List Nat, (∀ d ∈ l, d < P) → numF P l < P ^ l.length := by
  intro l
  induction l with
  | nil => intro _; simp [numF]
  | cons d ds ih =>
    intro h
    have h1 := h d (List.mem_cons_self ..)
    have h2 := ih (fun x hx => h x (List.mem_cons_of_mem _ hx))
    simp only [numF, List.length_cons, Nat.pow_succ]
    have : P * numF P ds + P ≤ P * P ^ ds.length := by
      have : numF P ds + 1 ≤ P ^ ds.length := h2
      calc P * numF P ds + P = P * (numF P ds + 1) := by grind
        _ ≤ P * P ^ ds.length := Nat.mul_le_mul_left _ this
    calc d + P * numF P ds < P + P * numF P ds := by omega
      _ = P * numF P ds + P := by grind
      _ ≤ P * P ^ ds.length := this
      _ = P ^ ds.length * P := by grind

def digits (P : Nat) : Nat → Nat → List Nat
  | 0, _ => []
  | n + 1, N => N % P :: digits P n (N / P)

theorem digits_length (P : Nat) : ∀ n N, (digits P n N).length = n
  | 0, _ => rfl
  | n + 1, N => by rw [digits, List.length_cons, digits_length P n]

theorem digits_lt (P : Nat) (hP : 0 < P) : ∀ n N, ∀ d ∈ digits P n N, d < P
  | 0, _, d, h => by simp [digits] at h
  | n + 1, N, d, h => by
    rcases List.mem_cons.mp h with rfl | h
    · exact Nat.mod_lt _ hP
    · exact digits_lt P hP n _ d h

theorem numF_digits (P : Nat) : ∀ n N, numF P (digits P n N) = N % P ^ n
  | 0, N => by simp [digits, numF, Nat.mod_one]
  | n + 1, N => by rw [digits, numF, numF_digits P n, Nat.pow_succ', Nat.mod_mul]

theorem digits_numF (P : Nat) : ∀ l : List Nat, (∀ d ∈ l, d < P) → digits P l.length (numF P l) = l
  | [], _ => rfl
  | d :: ds, h => by
    have hd := h d (List.mem_cons_self ..)
    rw [List.length_cons, numF, digits, Nat.add_mul_mod_self_left, Nat.mod_eq_of_lt hd,
      Nat.add_mul_div_left _ _ (by omega), Nat.div_eq_of_lt hd, Nat.zero_add,
      digits_numF P ds (fun x hx => h x (List.mem_cons_of_mem _ hx))]

theorem digits_eq_map (P : Nat) : ∀ n N, digits P n N = (List.range n).map (fun i => N / P ^ i % P)
  | 0, _ => rfl
  | n + 1, N => by
    rw [digits, digits_eq_map P n, List.range_succ_eq_map, List.map_cons, List.map_map]
    simp only [Nat.pow_zero, Nat.div_one, Function.comp_def, Nat.pow_succ', Nat.div_div_eq_div_mul]

/-- the `bl`-bit field a coefficient is encoded to -/
def fld (a b : Int) (c : Int) : Nat := if a = 0 then c.toNat else (b - c).toNat

/-- the coefficient a field is decoded to -/
def unfld (a b : Int) (f : Nat) : Int := if a = 0 then (f : Int) else b - f

theorem fld_unfld (a b : Int) (f : Nat) : fld a b (unfld a b f) = f := by
  unfold fld unfld
  split <;> omega

theorem unfld_fld (a b c : Int) (h : -a ≤ c ∧ c ≤ b) : unfld a b (fld a b c) = c := by
  unfold fld unfld
  split <;> omega

theorem natCast_lt_two_pow (d bl : Nat) : (d : Int) < 2 ^ bl ↔ d < 2 ^ bl := by
  rw [← Int.ofNat_lt, Int.natCast_pow]
  rfl

theorem fld_lt (a b : Int) (bl : Nat) (hab : a + b < 2 ^ bl) (c : Int) (h : -a ≤ c ∧ c ≤ b) : fld a b c < 2 ^ bl := by
  apply (natCast_lt_two_pow _ bl).mp
  unfold fld
  split <;> omega

/-- the test of `is_in_range` -/
def inR (a b : Int) (w : Poly) : Bool := w.all (fun e => decide (e ≥ -a) && decide (e ≤ b))

theorem isInRange_eq (m : Mode) (w : Poly) (lo hi : Int) (hlo : -2147483647 ≤ lo ∧ lo ≤ 2147483648) :
    isInRange m w lo hi = .ok (inR lo hi w) := by
  unfold isInRange
  rw [arith_i32 _ _ _ (by omega) (by omega)]
  rfl

theorem inR_iff (a b : Int) (w : Poly) : inR a b w = true ↔ ∀ c ∈ w, -a ≤ c ∧ c ≤ b := by
  simp [inR, List.all_eq_true]

theorem isInRange_true (m : Mode) (w : Poly) (lo hi : Int) (hlo : -2147483647 ≤ lo ∧ lo ≤ 2147483648)
    (h : ∀ c ∈ w, -lo ≤ c ∧ c ≤ hi) : isInRange m w lo hi = .ok true := by
  rw [isInRange_eq m w lo hi hlo, (inR_iff lo hi w).mpr h]

/-- a range assertion `debug_assert!(v.iter().all(|p| is_in_range(p, lo, hi)))` on a vector inside the range -/
theorem mapM_isInRange_true (m : Mode) (v : List Poly) (lo hi : Int) (hlo : -2147483647 ≤ lo ∧ lo ≤ 2147483648)
    (h : ∀ q ∈ v, ∀ c ∈ q, -lo ≤ c ∧ c ≤ hi) :
    (do let bs ← v.mapM (fun x => isInRange m x lo hi); pure (bs.all id) : M Bool) = .ok true := by
  rw [mapM_pure _ (fun _ => true) v (fun q hq => isInRange_true m q lo hi hlo (h q hq)), ok_bind, pure_eq]
  congr 1
  rw [List.all_eq_true]
  intro b hb
  obtain ⟨_, _, rfl⟩ := List.mem_map.mp hb
  rfl

/-- what `bit_unpack` computes from the bytes `v`, before its range test -/
def decodeP (a b : Int) (bl : Nat) (v : List Nat) : Poly := (digits (2 ^ bl) 256 (numF 256 v)).map (unfld a b)

/-- what `bit_pack` computes -/
def encodeP (a b : Int) (bl : Nat) (w : Poly) : List Nat := digits 256 (32 * bl) (numF (2 ^ bl) (w.map (fld a b)))

theorem decodeP_length (a b : Int) (bl : Nat) (v : List Nat) : (decodeP a b bl v).length = 256 := by
  rw [decodeP, List.length_map, digits_length]

theorem encodeP_length (a b : Int) (bl : Nat) (w : Poly) : (encodeP a b bl w).length = 32 * bl := digits_length ..

theorem encodeP_lt (a b : Int) (bl : Nat) (w : Poly) : ∀ x ∈ encodeP a b bl w, x < 256 := digits_lt 256 (by decide) _ _

theorem pow_bytes (bl : Nat) : 256 ^ (32 * bl) = (2 ^ bl) ^ 256 := by
  rw [show (256:Nat) = 2 ^ 8 by decide, ← Nat.pow_mul, ← Nat.pow_mul]
  congr 1
  omega

theorem encodeP_decodeP (a b : Int) (bl : Nat) (v : List Nat) (hv : ∀ x ∈ v, x < 256) (hlen : v.length = 32 * bl) :
    encodeP a b bl (decodeP a b bl v) = v := by
  have hN : numF 256 v < (2 ^ bl) ^ 256 := by
    rw [← pow_bytes, ← hlen]
    exact numF_lt 256 v hv
  unfold encodeP decodeP
  rw [List.map_map, List.map_congr_left (f := fld a b ∘ unfld a b) (g := id) (fun d _ => fld_unfld a b d), List.map_id, numF_digits,
    Nat.mod_eq_of_lt hN, ← hlen, digits_numF 256 v hv]

theorem decodeP_encodeP (a b : Int) (bl : Nat) (w : Poly) (hab : a + b < 2 ^ bl) (hw : ∀ c ∈ w, -a ≤ c ∧ c ≤ b)
    (hlen : w.length = 256) : decodeP a b bl (encodeP a b bl w) = w := by
  have hf : ∀ d ∈ w.map (fld a b), d < 2 ^ bl := fun d hd => by
    obtain ⟨c, hc, rfl⟩ := List.mem_map.mp hd
    exact fld_lt a b bl hab c (hw c hc)
  have hF : numF (2 ^ bl) (w.map (fld a b)) < 256 ^ (32 * bl) := by
    rw [pow_bytes, ← hlen, ← List.length_map (f := fld a b)]
    exact numF_lt _ _ hf
  unfold encodeP decodeP
  rw [numF_digits, Nat.mod_eq_of_lt hF, ← hlen, ← List.length_map (f := fld a b), digits_numF _ _ hf, List.map_map,
    List.map_congr_left (f := unfld a b ∘ fld a b) (g := id) (fun c hc => unfld_fld a b c (hw c hc)), List.map_id]

/-- when `a + b + 1 = 2^bl` (every pair in use except (eta, eta) and (0, 43)) every field decodes into `[-a, b]` -/
theorem inR_decodeP_exact (a b : Int) (bl : Nat) (hpow : a + b + 1 = 2 ^ bl) (v : List Nat) : inR a b (decodeP a b bl v) = true := by
  rw [inR_iff]
  intro c hc
  obtain ⟨d, hd, rfl⟩ := List.mem_map.mp hc
  have := (natCast_lt_two_pow d bl).mpr (digits_lt _ (Nat.two_pow_pos bl) _ _ d hd)
  unfold unfld
  split <;> omega

end Fips204.Impl
