import Fips204.Lemmas.VerifySpec
/-! Binding (C05): if two tuples that differ in the hint section, or in the public inputs, both pass Algorithm 8, the two runs
    exhibit an explicit collision of the hash oracle. -/
namespace Fips204.Impl
open Fips204 Fips204.Gen Fips204.K

/-- `w1Encode` is injective on in-range vectors: it is Algorithm 28, whose blocks `SimpleBitUnpack` reads back -/
theorem w1Encode_inj (m : Mode) (p : ParamSet)
    (hg : (p.gamma2 = 95232 ∧ p.w1Bits = 6) ∨ (p.gamma2 = 261888 ∧ p.w1Bits = 4)) (w1 w1' : List Poly) (hsh : Sh p.k w1) (hsh' : Sh p.k w1')
    (hr : ∀ q ∈ w1, ∀ x ∈ q, 0 ≤ x ∧ x ≤ (Q - 1) / (2 * p.gamma2) - 1) (hr' : ∀ q ∈ w1', ∀ x ∈ q, 0 ≤ x ∧ x ≤ (Q - 1) / (2 * p.gamma2) - 1)
    (out : List Nat) (h1 : w1Encode m p w1 p.w1Len = .ok out) (h2 : w1Encode m p w1' p.w1Len = .ok out) : w1 = w1' := by
  have heq := (ok_inj ((w1Encode_is_algorithm_28 m p hg w1 hsh hr).symm.trans h1)).trans
    (ok_inj ((w1Encode_is_algorithm_28 m p hg w1' hsh' hr').symm.trans h2)).symm
  unfold Spec.w1Encode at heq
  obtain ⟨qm, c⟩ := gamma2_facts p hg
  rw [c.div] at hr hr'
  exact section_inj (Spec.simpleBitPack p.w1Bits) (Spec.simpleBitUnpack p.w1Bits) (32 * p.w1Bits) w1 w1' (hsh.1.trans hsh'.1.symm)
    (fun w hw => spec_simpleBitUnpack_simpleBitPack p.w1Bits qm c.lt w (fun x hx => by have := hr w hw x hx; omega) (hsh.2 w hw))
    (fun w hw => spec_simpleBitUnpack_simpleBitPack p.w1Bits qm c.lt w (fun x hx => by have := hr' w hw x hx; omega) (hsh'.2 w hw))
    (fun _ => bitsToBytes_length _ _) heq

theorem useHint_vec_inj (g : Int) (hg : G2 g) {k : Nat} {h h' wa : List Poly} (hh : VecIn k 0 1 h) (hh' : VecIn k 0 1 h') (hwa : Sh k wa)
    (he : List.zipWith (fun hp wp => List.zipWith (fun hh r => Spec.useHint g hh r) hp wp) h wa =
      List.zipWith (fun hp wp => List.zipWith (fun hh r => Spec.useHint g hh r) hp wp) h' wa) : h = h' := by
  have hm : 2 ≤ (Q - 1) / (2 * g) := by rcases hg with rfl | rfl <;> decide
  apply List.ext_getElem (by rw [hh.1.1, hh'.1.1])
  intro i g1 g2
  have gw : i < wa.length := by rw [hwa.1, ← hh.1.1]; exact g1
  have l1 := hh.1.2 _ (List.getElem_mem g1)
  have l2 := hh'.1.2 _ (List.getElem_mem g2)
  have lw := hwa.2 _ (List.getElem_mem gw)
  have ei : List.zipWith (fun hh r => Spec.useHint g hh r) h[i] wa[i] = List.zipWith (fun hh r => Spec.useHint g hh r) h'[i] wa[i] := by
    have e1 := congrArg (fun l => l[i]?) he
    simp only [List.getElem?_zipWith, List.getElem?_eq_getElem g1, List.getElem?_eq_getElem g2, List.getElem?_eq_getElem gw] at e1
    simpa using e1
  apply List.ext_getElem (by rw [l1, l2])
  intro j k1 k2
  have kw : j < wa[i].length := by rw [lw, ← l1]; exact k1
  have ej := congrArg (fun l => l[j]?) ei
  simp only [List.getElem?_zipWith, List.getElem?_eq_getElem k1, List.getElem?_eq_getElem k2, List.getElem?_eq_getElem kw] at ej
  have ej' : Spec.useHint g h[i][j] wa[i][j] = Spec.useHint g h'[i][j] wa[i][j] := by simpa using ej
  have r1 := hh.2 _ (List.getElem_mem g1) _ (List.getElem_mem k1)
  have r2 := hh'.2 _ (List.getElem_mem g2) _ (List.getElem_mem k2)
  rcases (by omega : h[i][j] = 0 ∨ h[i][j] = 1) with a0 | a1 <;> rcases (by omega : h'[i][j] = 0 ∨ h'[i][j] = 1) with b0 | b1
  · rw [a0, b0]
  · rw [a0, b1] at ej'; exact absurd ej'.symm (Spec.useHint_flip (K.G2.rnd hg) hm _)
  · rw [a1, b0] at ej'; exact absurd ej' (Spec.useHint_flip (K.G2.rnd hg) hm _)
  · rw [a1, b1]

theorem verifySpec_true_inv (m : Mode) (O : Oracles) (ctest : Bool) (p : ParamSet) (rho tr : List Nat) (t1 : List Poly)
    (msg sig ctx oid phm : List Nat) (nist : Bool) (hv : verifySpec m O ctest p rho tr t1 msg sig ctx oid phm nist = .ok true) :
    ∃ cT z h c aHat w1t, sigDecode m p sig = .ok (some (cT, z, h)) ∧ sampleInBall m O false p.tau cT = .ok c ∧
      expandA m O ctest p rho = .ok aHat ∧
      w1Encode m p (List.zipWith (fun hp wp => List.zipWith (fun hh r => Spec.useHint p.gamma2 hh r) hp wp) h (wApproxS aHat z c t1)) p.w1Len = .ok w1t ∧
      normInfS z < p.gamma1 - p.beta ∧
      cT = O.h (muOf O domPure_verify domHash_verify tr msg ctx oid phm nist ++ w1t) p.lambdaDiv4 := by
  unfold verifySpec at hv
  obtain ⟨r, hd, hv⟩ := bind_ok_inv hv
  cases r with
  | none => exact nomatch ok_inj hv
  | some t =>
    obtain ⟨cT, z, h⟩ := t
    simp only [] at hv
    obtain ⟨c, hc, hv⟩ := bind_ok_inv hv
    obtain ⟨aHat, hA, hv⟩ := bind_ok_inv hv
    obtain ⟨w1t, hw, hv⟩ := bind_ok_inv hv
    rw [pure_eq] at hv
    have e := ok_inj hv
    simp only [Bool.and_eq_true, decide_eq_true_eq] at e
    exact ⟨cT, z, h, c, aHat, w1t, hd, hc, hA, hw, e.1, e.2⟩

theorem hint_change_needs_collision (m : Mode) (O : Oracles) (hO : OracleOk O) (ctest : Bool) (p : ParamSet) (blz : Nat) (cfg : VerCfg p blz)
    (rho tr : List Nat) (t1 : List Poly) (hrho : rho.length = 32) (ht1 : Sh p.k t1)
    (msg sig sig' ctx oid phm : List Nat) (nist : Bool)
    (hb : ∀ x ∈ sig, x < 256) (hlen : sig.length = p.sigLen) (hb' : ∀ x ∈ sig', x < 256) (hlen' : sig'.length = p.sigLen)
    (cT : List Nat) (z h h' : List Poly)
    (hd : sigDecode m p sig = .ok (some (cT, z, h))) (hd' : sigDecode m p sig' = .ok (some (cT, z, h'))) (hne : h ≠ h')
    (hv : verifySpec m O ctest p rho tr t1 msg sig ctx oid phm nist = .ok true)
    (hv' : verifySpec m O ctest p rho tr t1 msg sig' ctx oid phm nist = .ok true) :
    ∃ x x', x ≠ x' ∧ O.h x p.lambdaDiv4 = O.h x' p.lambdaDiv4 := by
  obtain ⟨cT0, z0, h0, c, aHat, w1t, hd0, hc, hA, hw, _, hcT⟩ := verifySpec_true_inv m O ctest p rho tr t1 msg sig ctx oid phm nist hv
  rw [hd] at hd0
  cases hd0
  obtain ⟨cT0, z0, h0, c', aHat', w1t', hd0, hc', hA', hw', _, hcT'⟩ := verifySpec_true_inv m O ctest p rho tr t1 msg sig' ctx oid phm nist hv'
  rw [hd'] at hd0
  cases hd0
  obtain rfl := ok_inj (hc.symm.trans hc')
  obtain rfl := ok_inj (hA.symm.trans hA')
  obtain ⟨r, hr, hprops⟩ := sigDecode_pre m cfg sig hb hlen
  obtain ⟨_, hz, hh, _⟩ := hprops cT z h (ok_inj (hr.symm.trans hd))
  obtain ⟨r', hr', hprops'⟩ := sigDecode_pre m cfg sig' hb' hlen'
  obtain ⟨_, _, hh', _⟩ := hprops' cT z h' (ok_inj (hr'.symm.trans hd'))
  have hcl : c.length = 256 := ((sampleInBall_np_tri m O hO false p.tau cT cfg.tau).ok_elim hc).1.1
  have hwa := wApproxS_in p.k aHat z c t1 ((expandA_np m O hO ctest p rho hrho).ok_elim hA).sh hz.1.2 hcl ht1
  refine ⟨_, _, ?_, hcT.symm.trans hcT'⟩
  intro heq
  have hw1 : w1t = w1t' := List.append_cancel_left heq
  rw [← hw1] at hw'
  have hW := useHint_in cfg.G2 hh hwa
  have hW' := useHint_in cfg.G2 hh' hwa
  exact hne (useHint_vec_inj p.gamma2 cfg.G2 hh hh' hwa.1 (w1Encode_inj m p cfg.g2 _ _ hW.1 hW'.1 hW.2 hW'.2 w1t hw hw'))

theorem muOf_length (O : Oracles) (hO : OracleOk O) (a b : Nat) (tr msg ctx oid phm : List Nat) (nist : Bool) :
    (muOf O a b tr msg ctx oid phm nist).length = 64 := by
  unfold muOf
  split
  · exact hO.hlen _ _
  · split <;> exact hO.hlen _ _

theorem mu_input_change_needs_collision (m : Mode) (O : Oracles) (hO : OracleOk O) (ctest : Bool) (p : ParamSet)
    (rho tr rho' tr' : List Nat) (t1 t1' : List Poly) (msg msg' sig ctx ctx' oid oid' phm phm' : List Nat) (nist nist' : Bool)
    (a a' : List Nat) (hne : a ≠ a') (f : muOf O domPure_verify domHash_verify tr msg ctx oid phm nist = O.h a 64)
    (f' : muOf O domPure_verify domHash_verify tr' msg' ctx' oid' phm' nist' = O.h a' 64)
    (hv : verifySpec m O ctest p rho tr t1 msg sig ctx oid phm nist = .ok true)
    (hv' : verifySpec m O ctest p rho' tr' t1' msg' sig ctx' oid' phm' nist' = .ok true) :
    ∃ n x x', x ≠ x' ∧ O.h x n = O.h x' n := by
  obtain ⟨cT, z, h, _, _, w1t, hd, _, _, _, _, hcT⟩ := verifySpec_true_inv m O ctest p rho tr t1 msg sig ctx oid phm nist hv
  obtain ⟨cT', z', h', _, _, w1t', hd', _, _, _, _, hcT'⟩ := verifySpec_true_inv m O ctest p rho' tr' t1' msg' sig ctx' oid' phm' nist' hv'
  rw [hd] at hd'
  cases hd'
  by_cases hmu : muOf O domPure_verify domHash_verify tr msg ctx oid phm nist = muOf O domPure_verify domHash_verify tr' msg' ctx' oid' phm' nist'
  · rw [f, f'] at hmu
    exact ⟨64, a, a', hne, hmu⟩
  · exact ⟨_, _, _, fun heq => hmu (List.append_inj heq (by rw [muOf_length O hO, muOf_length O hO])).1, hcT.symm.trans hcT'⟩

end Fips204.Impl
