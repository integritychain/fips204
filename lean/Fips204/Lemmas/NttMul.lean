import Fips204.Lemmas.NttAlg
/-! The forward specification evaluates a polynomial at 256 roots of `X^256 + 1` modulo q; hence pointwise products in
    the NTT domain are negacyclic products of polynomials. -/
namespace Fips204.Impl
open Fips204 Fips204.Gen Fips204.K

/-- `w_0 + w_1 x + w_2 x^2 + ...` -/
def ev (x : Int) : List Int → Int
  | [] => 0
  | a :: as => a + x * ev x as

theorem ev_append (x : Int) : ∀ (u v : List Int), ev x (u ++ v) = ev x u + x ^ u.length * ev x v := by
  intro u
  induction u with
  | nil => intro v; simp [ev]
  | cons a as ih => intro v; simp only [List.cons_append, ev, ih, List.length_cons, Int.pow_succ]; grind

theorem ev_cong (x : Int) : ∀ (u v : List Int), CongL u v → cg (ev x u) (ev x v) := by
  intro u
  induction u with
  | nil => intro v h; have : v = [] := by have := h.1; simp at this; exact List.eq_nil_of_length_eq_zero this.symm
           subst this; exact cg.refl _
  | cons a as ih =>
    intro v h
    cases v with
    | nil => have := h.1; simp at this
    | cons b bs =>
      obtain ⟨h0, ht⟩ := h.uncons
      simp only [ev]
      exact h0.add ((ih bs ht).mul_left x)

theorem ev_map_mul (x c : Int) : ∀ u : List Int, ev x (u.map (fun y => c * y)) = c * ev x u := by
  intro u
  induction u with
  | nil => simp [ev]
  | cons a as ih => simp only [List.map_cons, ev, ih]; grind

/-- evaluation commutes with a coefficientwise operation that is linear in the sense of `hop` (`+` and `-` below) -/
theorem ev_zipWith (x : Int) (op : Int → Int → Int) (h0 : op 0 0 = 0)
    (hop : ∀ a b c d, op a b + x * op c d = op (a + x * c) (b + x * d)) :
    ∀ (u v : List Int), u.length = v.length → ev x (List.zipWith op u v) = op (ev x u) (ev x v)
  | [], [], _ => h0.symm
  | a :: as, b :: bs, h => by
    rw [List.zipWith_cons_cons, ev, ev, ev, ev_zipWith x op h0 hop as bs (by simpa using h), hop]

theorem ev_zip_add (x : Int) (u v : List Int) (h : u.length = v.length) :
    ev x (List.zipWith (fun a t => a + t) u v) = ev x u + ev x v :=
  ev_zipWith x (fun a t => a + t) rfl (fun a b c d => by grind) u v h

theorem ev_zip_sub (x : Int) (u v : List Int) (h : u.length = v.length) :
    ev x (List.zipWith (fun a t => a - t) u v) = ev x u - ev x v :=
  ev_zipWith x (fun a t => a - t) rfl (fun a b c d => by grind) u v h

/-- the evaluation point of leaf `i` of the block of size `2^d` with table index `k` -/
def root : Nat → Nat → Nat → Int
  | 0, _, _ => 0
  | 1, k, i => if i = 0 then cf k else -cf k
  | d + 2, k, i => if i < 2 ^ (d + 1) then root (d + 1) (2 * k) i else root (d + 1) (2 * k + 1) (i - 2 ^ (d + 1))

theorem root_left {d k i : Nat} (h : i < 2 ^ (d + 1)) : root (d + 1 + 1) k i = root (d + 1) (2 * k) i := by
  rw [root, if_pos h]

theorem root_right {d k i : Nat} (h : ¬i < 2 ^ (d + 1)) : root (d + 1 + 1) k i = root (d + 1) (2 * k + 1) (i - 2 ^ (d + 1)) := by
  rw [root, if_neg h]

theorem sq_cg (k : Nat) (h2 : k < 128) : cg (cf (2 * k) * cf (2 * k)) (cf k) ∧ cg (cf (2 * k + 1) * cf (2 * k + 1)) (-cf k) := by
  obtain ⟨e0, e1⟩ := bitrev8_children k h2
  have c := (cf_cg k (by omega)).symm
  have p0 : (1753 : Int) ^ bitrev8 (2 * k) * 1753 ^ bitrev8 (2 * k) = 1753 ^ bitrev8 k := by
    rw [← Int.pow_add, ← Nat.two_mul, e0]
  have p1 : (1753 : Int) ^ bitrev8 (2 * k + 1) * 1753 ^ bitrev8 (2 * k + 1) = 1753 ^ bitrev8 k * 1753 ^ 256 := by
    rw [← Int.pow_add, ← Int.pow_add, ← Nat.two_mul, e1]
  constructor
  · exact ((cf_cg (2 * k) (by omega)).sq.trans (cg.of_eq p0)).trans c
  · exact ((cf_cg (2 * k + 1) (by omega)).sq.trans (cg.of_eq p1)).trans
      ((zeta_256.mul_left _).trans ((c.mul_right (-1)).trans (cg.of_eq (Int.mul_neg_one _))))

/-- every leaf root of block `(d+1, k)` is a `2^d`-th root of `± zeta_k` -/
theorem root_pow : ∀ (d k i : Nat), i < 2 ^ (d + 1) → (k + 1) * 2 ^ (d + 1) ≤ 512 → 1 ≤ k →
    cg ((root (d + 1) k i) ^ (2 ^ d)) (if i < 2 ^ d then cf k else -cf k) := by
  intro d
  induction d with
  | zero =>
    intro k i hi _ _
    have : i = 0 ∨ i = 1 := by simp at hi; omega
    rcases this with rfl | rfl
    · simp [root]; exact cg.of_eq (Int.pow_one _)
    · simp [root]; exact cg.of_eq (Int.pow_one _)
  | succ d ih =>
    intro k i hi hk h1
    have hp' : 2 ^ (d + 1) = 2 * 2 ^ d := Nat.pow_succ' ..
    obtain ⟨hk0, hk1, _⟩ := blk_children hk
    have hk128 : k < 128 := by
      have := (blk_children hk1).2.2
      omega
    obtain ⟨s0, s1⟩ := sq_cg k hk128
    have epow : ∀ x : Int, x ^ (2 ^ (d + 1)) = x ^ (2 ^ d) * x ^ (2 ^ d) := fun x => by rw [hp', Nat.two_mul, Int.pow_add]
    by_cases hlt : i < 2 ^ (d + 1)
    · have hr : root (d + 1 + 1) k i = root (d + 1) (2 * k) i := root_left hlt
      rw [hr, if_pos hlt, epow]
      have := ih (2 * k) i hlt hk0 (by omega)
      refine this.sq.trans ?_
      split
      · exact s0
      · exact (cg.of_eq (Int.neg_mul_neg ..)).trans s0
    · have hr : root (d + 1 + 1) k i = root (d + 1) (2 * k + 1) (i - 2 ^ (d + 1)) := root_right hlt
      rw [hr, if_neg hlt, epow]
      have := ih (2 * k + 1) (i - 2 ^ (d + 1)) (by omega) hk1 (by omega)
      refine this.sq.trans ?_
      split
      · exact s1
      · exact (cg.of_eq (Int.neg_mul_neg ..)).trans s1

/-- **the forward specification evaluates the block's polynomial at the leaf roots** -/
theorem nttS_eval : ∀ (d k : Nat) (w : List Int), w.length = 2 ^ (d + 1) → (k + 1) * 2 ^ (d + 1) ≤ 512 → 1 ≤ k →
    ∀ i (hi : i < (nttS (d + 1) k w).length), cg ((nttS (d + 1) k w)[i]) (ev (root (d + 1) k i) w) := by
  intro d
  induction d with
  | zero =>
    intro k w hw _ _ i hi
    match w, hw with
    | [a, b], _ =>
      have hi' : i = 0 ∨ i = 1 := by simp [nttS] at hi; omega
      rcases hi' with rfl | rfl
      · simp only [nttS, root, cf, ev]; simp; exact cg.of_eq (by grind)
      · simp only [nttS, root, cf, ev]; simp; exact cg.of_eq (by grind)
  | succ d ih =>
    intro k w hw hk h1 i hi
    have hp : 2 ^ (d + 1 + 1) = 2 * 2 ^ (d + 1) := Nat.pow_succ' ..
    have hi2 : i < 2 ^ (d + 1 + 1) := by rw [nttS_length (d + 1 + 1) k w hw] at hi; exact hi
    obtain ⟨lo, hh, rfl, hlo, hhi⟩ := halves w (2 ^ (d + 1)) (by rw [hw, hp])
    have hts : (hh.map (fun x => zv k * x * RINV)).length = 2 ^ (d + 1) := by rw [List.length_map, hhi]
    have hA := layer_length (fun a t => a + t) (fun x => zv k * x * RINV) hlo hhi
    have hB := layer_length (fun a t => a - t) (fun x => zv k * x * RINV) hlo hhi
    have lA := nttS_length (d + 1) (2 * k) _ hA
    have lB := nttS_length (d + 1) (2 * k + 1) _ hB
    obtain ⟨hk0, hk1, _⟩ := blk_children hk
    have hrp := root_pow (d + 1) k i hi2 hk h1
    have hts_ev : ∀ x : Int, ev x (hh.map (fun y => zv k * y * RINV)) = cf k * ev x hh := by
      intro x
      have : (fun y : Int => zv k * y * RINV) = (fun y => cf k * y) := funext fun y => Int.mul_right_comm ..
      rw [this, ev_map_mul]
    simp only [nttS_append (d + 1) k lo hh (hlo.trans hhi.symm)]
    -- `w(x) = lo(x) + x^(2^(d+1)) hi(x)` and `x^(2^(d+1)) = ± zeta_k` at the roots of the left / right child
    by_cases hlt : i < 2 ^ (d + 1)
    · have hr : root (d + 1 + 1) k i = root (d + 1) (2 * k) i := root_left hlt
      rw [List.getElem_append_left (by rw [lA]; exact hlt)]
      have c := ih (2 * k) _ hA hk0 (by omega) i (by rw [lA]; exact hlt)
      rw [hr]
      refine c.trans ?_
      rw [ev_zip_add _ _ _ (by rw [hlo, hts]), hts_ev, ev_append, hlo]
      rw [hr, if_pos hlt] at hrp
      exact (cg.refl _).add (hrp.symm.mul_right _)
    · have hr : root (d + 1 + 1) k i = root (d + 1) (2 * k + 1) (i - 2 ^ (d + 1)) := root_right hlt
      rw [List.getElem_append_right (by rw [lA]; omega)]
      simp only [lA]
      have c := ih (2 * k + 1) _ hB hk1 (by omega) (i - 2 ^ (d + 1)) (by rw [lB]; omega)
      rw [hr]
      refine c.trans ?_
      rw [ev_zip_sub _ _ _ (by rw [hlo, hts]), hts_ev, ev_append, hlo]
      rw [hr, if_neg hlt] at hrp
      exact (cg.of_eq (by rw [Int.sub_eq_add_neg, Int.neg_mul])).trans ((cg.refl _).add (hrp.symm.mul_right _))

theorem nttS_ev (w : List Int) (hw : w.length = 256) (i : Nat) (h : i < (nttS 8 1 w).length) :
    cg (nttS 8 1 w)[i] (ev (root 8 1 i) w) :=
  nttS_eval 7 1 w (by rw [hw]) (by decide) (by omega) i h

theorem nttS_of_ev (w r : List Int) (hw : w.length = 256) (hr : r.length = 256)
    (h : ∀ i (hi : i < r.length), i < 256 → cg (ev (root 8 1 i) w) r[i]) : CongL (nttS 8 1 w) r := by
  have lw := nttS_length 8 1 w (by rw [hw])
  exact ⟨by rw [lw, hr], fun i h1 h2 => (nttS_ev w hw i h1).trans (h i h2 (by rw [lw] at h1; exact h1))⟩

/-- coefficientwise sum (the longer list wins the tail) -/
def addP : List Int → List Int → List Int
  | [], b => b
  | a, [] => a
  | a :: as, b :: bs => (a + b) :: addP as bs

/-- schoolbook product of polynomials -/
def mulP : List Int → List Int → List Int
  | [], _ => []
  | a :: as, b => addP (b.map (fun y => a * y)) (0 :: mulP as b)

theorem ev_addP (x : Int) : ∀ (a b : List Int), ev x (addP a b) = ev x a + ev x b := by
  intro a
  induction a with
  | nil => intro b; simp [addP, ev]
  | cons a as ih =>
    intro b
    cases b with
    | nil => simp [addP, ev]
    | cons b bs => simp only [addP, ev, ih bs]; grind

theorem ev_mulP (x : Int) : ∀ (a b : List Int), ev x (mulP a b) = ev x a * ev x b := by
  intro a
  induction a with
  | nil => intro b; simp [mulP, ev]
  | cons a as ih => intro b; simp only [mulP, ev_addP, ev_map_mul, ev, ih b]; grind

theorem addP_length : ∀ (a b : List Int), (addP a b).length = max a.length b.length := by
  intro a
  induction a with
  | nil => intro b; simp [addP]
  | cons a as ih =>
    intro b
    cases b with
    | nil => simp [addP]
    | cons b bs => simp only [addP, List.length_cons, ih bs]; omega

theorem mulP_length : ∀ (a b : List Int), a ≠ [] → b ≠ [] → (mulP a b).length = a.length + b.length - 1 := by
  intro a
  induction a with
  | nil => intro b h; exact absurd rfl h
  | cons a as ih =>
    intro b _ hb
    have hbl : 1 ≤ b.length := by cases b with | nil => exact absurd rfl hb | cons _ _ => simp
    cases as with
    | nil => simp only [mulP, addP_length, List.length_map, List.length_cons, List.length_nil]; omega
    | cons a' as' =>
      have := ih b (by simp) hb
      simp only [mulP, addP_length, List.length_map, List.length_cons] at this ⊢
      omega

/-- reduction modulo `X^256 + 1` -/
def negc (p : List Int) : List Int := addP (p.take 256) ((p.drop 256).map (fun y => -1 * y))

theorem getD_zipWith (f : Int → Int → Int) (a b : List Int) (i : Nat) (ha : i < a.length) (hb : i < b.length) :
    (List.zipWith f a b).getD i 0 = f (a.getD i 0) (b.getD i 0) := by
  rw [← List.getElem_eq_getD (h := by rw [List.length_zipWith]; omega), ← List.getElem_eq_getD (h := ha), ← List.getElem_eq_getD (h := hb),
    List.getElem_zipWith]

theorem addP_getD : ∀ (x y : List Int) (k : Nat), (addP x y).getD k 0 = x.getD k 0 + y.getD k 0 := by
  intro x
  induction x with
  | nil => intro y k; simp [addP]
  | cons a as ih =>
    intro y k
    cases y with
    | nil => simp [addP]
    | cons b bs =>
      cases k with
      | zero => simp [addP]
      | succ j => simp only [addP, List.getD_cons_succ]; exact ih bs j

theorem map_mul_getD (a : Int) (s : List Int) (k : Nat) : (s.map (fun y => a * y)).getD k 0 = a * s.getD k 0 := by
  simp only [List.getD_eq_getElem?_getD, List.getElem?_map]
  cases s[k]? <;> simp

theorem negc_getD (p : List Int) (k : Nat) (hk : k < 256) : (negc p).getD k 0 = p.getD k 0 - p.getD (k + 256) 0 := by
  unfold negc
  rw [addP_getD, map_mul_getD]
  have e1 : (p.take 256).getD k 0 = p.getD k 0 := by
    simp only [List.getD_eq_getElem?_getD, List.getElem?_take, if_pos hk]
  have e2 : (p.drop 256).getD k 0 = p.getD (k + 256) 0 := by
    simp only [List.getD_eq_getElem?_getD, List.getElem?_drop, Nat.add_comm]
  rw [e1, e2]; omega

/-- the product in `Z[X]/(X^256 + 1)` -/
def negMul (a b : List Int) : List Int := negc (mulP a b)

/-- `c * s mod q`, canonical representatives of the negacyclic product -/
def cmul (c s : Poly) : Poly := canon (negMul c s)

theorem addP_map_zero : ∀ (b l : List Int), b.length ≤ l.length → addP (b.map (fun y => 0 * y)) l = l
  | [], l, _ => by cases l <;> rfl
  | _ :: b, x :: l, h => by
    rw [List.map_cons, addP, Int.zero_mul, Int.zero_add, addP_map_zero b l (Nat.le_of_succ_le_succ h)]

theorem mulP_shift (a b : List Int) (ha : a ≠ []) (hb : b ≠ []) : ∀ n : Nat, mulP (List.replicate n 0 ++ a) b = List.replicate n 0 ++ mulP a b
  | 0 => rfl
  | n + 1 => by
    have hl := mulP_length (List.replicate n 0 ++ a) b (by simp [ha]) hb
    rw [List.replicate_succ, List.cons_append, mulP, addP_map_zero _ _ (by rw [List.length_cons, hl]; omega), mulP_shift a b ha hb n]
    rfl

/-- `X^255 * X = -1`: the one product the sanity examples of `Props/C18b`, `Props/C18c` evaluate -/
theorem negMul_x255_x : negMul (List.replicate 255 0 ++ [1]) (0 :: 1 :: List.replicate 254 0) = (-1) :: List.replicate 255 0 := by
  rw [negMul, mulP_shift _ _ (by decide) (by decide)]
  decide +kernel

theorem mulP_256_length (a b : List Int) (ha : a.length = 256) (hb : b.length = 256) : (mulP a b).length = 511 := by
  rw [mulP_length a b (List.ne_nil_of_length_eq_add_one ha) (List.ne_nil_of_length_eq_add_one hb), ha, hb]

theorem negMul_length (a b : List Int) (ha : a.length = 256) (hb : b.length = 256) : (negMul a b).length = 256 := by
  unfold negMul negc
  rw [addP_length, List.length_take, List.length_map, List.length_drop, mulP_256_length a b ha hb]
  rfl

theorem ev_negc (x : Int) (hx : cg (x ^ 256) (-1)) (p : List Int) (hp : 256 ≤ p.length) : cg (ev x (negc p)) (ev x p) := by
  unfold negc
  rw [ev_addP, ev_map_mul]
  have hs : p = p.take 256 ++ p.drop 256 := (List.take_append_drop _ _).symm
  conv => rhs; rw [hs, ev_append, List.length_take, Nat.min_eq_left hp]
  exact (cg.refl _).add (hx.symm.mul_right _)

theorem root_256 (i : Nat) (hi : i < 256) : cg ((root 8 1 i) ^ 256) (-1) := by
  have h := root_pow 7 1 i (by simpa using hi) (by decide) (by omega)
  have e : (root 8 1 i) ^ 256 = (root (7 + 1) 1 i) ^ (2 ^ 7) * (root (7 + 1) 1 i) ^ (2 ^ 7) := by
    rw [← Int.pow_add]
  rw [e]
  have hc : cg (cf 1 * cf 1) (-1) := ((cf_cg 1 (by decide)).sq.trans (cg.of_eq (Int.pow_add ..).symm)).trans zeta_256
  refine h.sq.trans ?_
  split
  · exact hc
  · exact (cg.of_eq (Int.neg_mul_neg ..)).trans hc

theorem ev_negMul (a b : List Int) (ha : a.length = 256) (hb : b.length = 256) (i : Nat) (hi : i < 256) :
    cg (ev (root 8 1 i) (negMul a b)) (ev (root 8 1 i) a * ev (root 8 1 i) b) := by
  have hn := ev_negc (root 8 1 i) (root_256 i hi) (mulP a b) (by rw [mulP_256_length a b ha hb]; decide)
  rwa [ev_mulP] at hn

/-- **pointwise products in the NTT domain are negacyclic products**: the transform of `a * b mod (X^256 + 1)` is the
    coefficientwise product of the transforms, modulo q -/
theorem nttS_negMul (a b : List Int) (ha : a.length = 256) (hb : b.length = 256) :
    CongL (nttS 8 1 (negMul a b)) (List.zipWith (fun x y => x * y) (nttS 8 1 a) (nttS 8 1 b)) := by
  have la := nttS_length 8 1 a (by rw [ha])
  have lb := nttS_length 8 1 b (by rw [hb])
  refine nttS_of_ev _ _ (negMul_length a b ha hb) (by rw [List.length_zipWith, la, lb]; rfl) fun i h hi => ?_
  rw [List.getElem_zipWith]
  exact (ev_negMul a b ha hb i hi).trans (((nttS_ev a ha i _).symm.mul_right _).trans ((nttS_ev b hb i _).symm.mul_left _))

theorem nttS_add (u v : List Int) (hu : u.length = 256) (hv : v.length = 256) :
    CongL (nttS 8 1 (List.zipWith (fun a b => a + b) u v)) (List.zipWith (fun a b => a + b) (nttS 8 1 u) (nttS 8 1 v)) := by
  have la := nttS_length 8 1 u (by rw [hu])
  have lb := nttS_length 8 1 v (by rw [hv])
  refine nttS_of_ev _ _ (by rw [List.length_zipWith, hu, hv]; rfl) (by rw [List.length_zipWith, la, lb]; rfl) fun i h hi => ?_
  rw [List.getElem_zipWith, ev_zip_add _ _ _ (by rw [hu, hv])]
  exact (nttS_ev u hu i _).symm.add (nttS_ev v hv i _).symm

theorem ev_zeros (x : Int) : ∀ n : Nat, ev x (List.replicate n 0) = 0 := by
  intro n
  induction n with
  | zero => rfl
  | succ n ih => simp [List.replicate_succ, ev, ih]

theorem nttS_zero : CongL zeroPoly (nttS 8 1 zeroPoly) :=
  (nttS_of_ev zeroPoly zeroPoly zeroPoly_length zeroPoly_length fun i h _ => by
    rw [eq_zero_of_mem_zeroPoly (List.getElem_mem h)]
    unfold zeroPoly
    exact cg.of_eq (ev_zeros _ _)).symm

/-- **`invNTT(NTT(a) ∘ NTT(b)) = 2^8 (a * b)`** in `Z_q[X]/(X^256 + 1)`, at the level of the exact specifications -/
theorem invS_pointwise (a b : List Int) (ha : a.length = 256) (hb : b.length = 256) :
    CongL (invS 8 1 (List.zipWith (fun x y => x * y) (nttS 8 1 a) (nttS 8 1 b))) ((negMul a b).map (fun x => 2 ^ 8 * x)) :=
  (invS_cong 8 1 _ _ (nttS_negMul a b ha hb).symm).trans
    (invS_nttS 8 0 1 1 (negMul a b) (by rw [negMul_length a b ha hb]) (by decide) (by decide) (by decide) (by decide))

end Fips204.Impl
