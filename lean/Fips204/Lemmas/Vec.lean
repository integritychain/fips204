import Fips204.Lemmas.Shapes
/-! The range predicates on polynomials and vectors, and what `mapM` / `zipWithM` / `zipWith3M` of a coefficient function that is a
    known function on the range return on a vector in a range (with the shape alone, `Sh`, where no range is known). -/
namespace Fips204.Impl
open Fips204 Fips204.Gen

/-- `8380416 = q - 1` -/
def Res (w : List Int) : Prop := ∀ x ∈ w, 0 ≤ x ∧ x ≤ 8380416

def Bnd (B : Int) (w : List Int) : Prop := ∀ x ∈ w, -B ≤ x ∧ x ≤ B

theorem Bnd.take {B : Int} {w : List Int} (h : Bnd B w) (n : Nat) : Bnd B (w.take n) :=
  fun x hx => h x (List.mem_of_mem_take hx)
theorem Bnd.drop {B : Int} {w : List Int} (h : Bnd B w) (n : Nat) : Bnd B (w.drop n) :=
  fun x hx => h x (List.mem_of_mem_drop hx)
theorem Bnd.mono {B B' : Int} {w : List Int} (h : Bnd B w) (hb : B ≤ B') : Bnd B' w :=
  fun x hx => ⟨by have := (h x hx).1; omega, by have := (h x hx).2; omega⟩
theorem Bnd.append {B : Int} {v w : List Int} (h1 : Bnd B v) (h2 : Bnd B w) : Bnd B (v ++ w) := by
  intro x hx; rcases List.mem_append.mp hx with h | h
  · exact h1 x h
  · exact h2 x h

theorem Res.bnd {w : List Int} (h : Res w) : Bnd 8380416 w := fun x hx => by
  have := h x hx
  omega

theorem Res.lt {w : List Int} (h : Res w) : ∀ x ∈ w, 0 ≤ x ∧ x < 8380417 := fun x hx => by
  have := h x hx
  omega

theorem res_lt_of_ok {x : M (List Poly)} (h : ∃ r, x = .ok r ∧ ∀ w ∈ r, Res w) :
    ∃ r, x = .ok r ∧ ∀ w ∈ r, ∀ y ∈ w, 0 ≤ y ∧ y < 8380417 :=
  h.imp fun _ h => ⟨h.1, fun w hw => (h.2 w hw).lt⟩

theorem zeroPoly_bnd : Bnd 0 zeroPoly := fun x hx => by
  have := eq_zero_of_mem_zeroPoly hx
  omega

def PolyIn (lo hi : Int) (q : Poly) : Prop := q.length = 256 ∧ ∀ x ∈ q, lo ≤ x ∧ x ≤ hi

def VecIn (n : Nat) (lo hi : Int) (v : List Poly) : Prop := Sh n v ∧ ∀ q ∈ v, ∀ x ∈ q, lo ≤ x ∧ x ≤ hi

/-- a `k × l` matrix of canonical polynomials (what `expand_a` returns) -/
def MatIn (k l : Nat) (a : List (List Poly)) : Prop :=
  a.length = k ∧ ∀ row ∈ a, row.length = l ∧ ∀ q ∈ row, q.length = 256 ∧ Res q

section
variable {n : Nat} {lo hi lo' hi' lo₁ hi₁ lo₂ hi₂ : Int} {q : Poly} {u v w : List Poly}

theorem PolyIn.mono (h : PolyIn lo hi q) (h1 : lo' ≤ lo) (h2 : hi ≤ hi') : PolyIn lo' hi' q :=
  ⟨h.1, fun x hx => by have := h.2 x hx; omega⟩

theorem VecIn.poly (h : VecIn n lo hi v) (hq : q ∈ v) : PolyIn lo hi q := ⟨h.1.2 q hq, h.2 q hq⟩

theorem VecIn.of_polys (hl : v.length = n) (h : ∀ q ∈ v, PolyIn lo hi q) : VecIn n lo hi v :=
  ⟨⟨hl, fun q hq => (h q hq).1⟩, fun q hq => (h q hq).2⟩

theorem VecIn.mono (h : VecIn n lo hi v) (h1 : lo' ≤ lo) (h2 : hi ≤ hi') : VecIn n lo' hi' v :=
  ⟨h.1, fun q hq x hx => by have := h.2 q hq x hx; omega⟩

theorem VecIn.bnd {B : Int} (h : VecIn n (-B) B v) : ∀ w ∈ v, Bnd B w := h.2

theorem VecIn.map₂ {f : Int → Int} (hv : VecIn n lo hi v) (hf : ∀ x, lo ≤ x ∧ x ≤ hi → lo' ≤ f x ∧ f x ≤ hi') :
    VecIn n lo' hi' (v.map fun p => p.map f) :=
  ⟨hv.1.map₂ f, fun q hq x hx => by
    obtain ⟨p, hp, rfl⟩ := List.mem_map.mp hq
    obtain ⟨y, hy, rfl⟩ := List.mem_map.mp hx
    exact hf y (hv.2 p hp y hy)⟩

theorem Sh.map₂_in {f : Int → Int} (hv : Sh n v) (hf : ∀ x, lo ≤ f x ∧ f x ≤ hi) : VecIn n lo hi (v.map fun p => p.map f) :=
  ⟨hv.map₂ f, fun q hq x hx => by
    obtain ⟨p, _, rfl⟩ := List.mem_map.mp hq
    obtain ⟨y, _, rfl⟩ := List.mem_map.mp hx
    exact hf y⟩

end

def MatSh (k : Nat) (a : List (List Poly)) : Prop := a.length = k ∧ ∀ row ∈ a, ∀ q ∈ row, q.length = 256

section
variable {k l : Nat} {a : List (List Poly)}

theorem MatIn.len256 (h : MatIn k l a) : ∀ row ∈ a, ∀ q ∈ row, q.length = 256 := fun row hr q hq => ((h.2 row hr).2 q hq).1

theorem MatIn.res (h : MatIn k l a) : ∀ row ∈ a, ∀ q ∈ row, Res q := fun row hr q hq => ((h.2 row hr).2 q hq).2

theorem MatIn.sh (h : MatIn k l a) : MatSh k a := ⟨h.1, h.len256⟩

theorem MatIn.rows {n : Nat} (h : MatIn k l a) (hl : l ≤ n) : ∀ row ∈ a, row.length ≤ n ∧ ∀ q ∈ row, Res q :=
  fun row hr => ⟨by rw [(h.2 row hr).1]; exact hl, h.res row hr⟩

end

theorem exists_of_mem_zipWith {α β γ} (f : α → β → γ) (l : List α) (l' : List β) (x : γ) (h : x ∈ List.zipWith f l l') :
    ∃ a ∈ l, ∃ b ∈ l', x = f a b := by
  rw [← List.map_uncurry_zip_eq_zipWith] at h
  obtain ⟨⟨a, b⟩, hab, rfl⟩ := List.mem_map.mp h
  exact ⟨a, (List.of_mem_zip hab).1, b, (List.of_mem_zip hab).2, rfl⟩

theorem zipWith_congr_on {α β γ} (f g : α → β → γ) (l : List α) (l' : List β) (h : ∀ a ∈ l, ∀ b ∈ l', f a b = g a b) :
    List.zipWith f l l' = List.zipWith g l l' := by
  rw [← List.map_uncurry_zip_eq_zipWith, ← List.map_uncurry_zip_eq_zipWith]
  exact List.map_congr_left fun p hp => h p.1 (List.of_mem_zip hp).1 p.2 (List.of_mem_zip hp).2

/-- what `zipWith3M` of a coefficient function returns when every step is `.ok (g ..)` (`zipWith3M_pure`) -/
def zw3 (g : Int → Int → Int → Int) (l l' l'' : List Int) : List Int :=
  List.zipWith (fun e (au : Int × Int) => g e au.1 au.2) l (List.zip l' l'')

theorem zipWith3M_pure (f : Int → Int → Int → M Int) (g : Int → Int → Int → Int) (P P' P'' : Int → Prop)
    (hf : ∀ a b c, P a → P' b → P'' c → f a b c = .ok (g a b c)) (l l' l'' : List Int) (h : ∀ a ∈ l, P a) (h' : ∀ b ∈ l', P' b)
    (h'' : ∀ c ∈ l'', P'' c) : zipWith3M f l l' l'' = .ok (zw3 g l l' l'') :=
  zipWith3M_eq_zipWith f g P P' P'' hf l l' l'' h h' h''

theorem exists_of_mem_zw3 (g : Int → Int → Int → Int) (l l' l'' : List Int) (x : Int) (hx : x ∈ zw3 g l l' l'') :
    ∃ e ∈ l, ∃ a ∈ l', ∃ u ∈ l'', x = g e a u := by
  obtain ⟨e, he, au, hau, rfl⟩ := exists_of_mem_zipWith _ _ _ x hx
  exact ⟨e, he, au.1, (List.of_mem_zip hau).1, au.2, (List.of_mem_zip hau).2, rfl⟩

theorem zw3_length (g : Int → Int → Int → Int) (l l' l'' : List Int) :
    (zw3 g l l' l'').length = min l.length (min l'.length l''.length) := by
  unfold zw3
  rw [List.length_zipWith, List.length_zip]

theorem zw3_getElem (g : Int → Int → Int → Int) (l l' l'' : List Int) (i : Nat) (h : i < (zw3 g l l' l'').length) :
    (zw3 g l l' l'')[i] = g (l[i]'(by rw [zw3_length] at h; omega)) (l'[i]'(by rw [zw3_length] at h; omega))
      (l''[i]'(by rw [zw3_length] at h; omega)) := by
  simp only [zw3, List.getElem_zipWith, List.getElem_zip]

section
variable {n : Nat} {lo hi lo₁ hi₁ lo₂ hi₂ lo₃ hi₃ lo' hi' : Int} {u v t : List Poly}

theorem VecIn.mapM₂_eq {f : Int → M Int} {g : Int → Int} (hv : VecIn n lo hi v) (hf : ∀ x, lo ≤ x ∧ x ≤ hi → f x = .ok (g x)) :
    v.mapM (fun p => p.mapM f) = .ok (v.map fun p => p.map g) :=
  mapM_pure _ _ v fun p hp => mapM_pure _ _ p fun x hx => hf x (hv.2 p hp x hx)

theorem VecIn.zipWithM₂_eq {f : Int → Int → M Int} {g : Int → Int → Int} (hu : VecIn n lo₁ hi₁ u) (hv : VecIn n lo₂ hi₂ v)
    (hf : ∀ a b, lo₁ ≤ a ∧ a ≤ hi₁ → lo₂ ≤ b ∧ b ≤ hi₂ → f a b = .ok (g a b)) :
    Impl.zipWithM (fun p q => Impl.zipWithM f p q) u v = .ok (List.zipWith (fun p q => List.zipWith g p q) u v) :=
  zipWithM_pure _ _ (fun p => ∀ x ∈ p, lo₁ ≤ x ∧ x ≤ hi₁) (fun q => ∀ x ∈ q, lo₂ ≤ x ∧ x ≤ hi₂)
    (fun p q hp hq => zipWithM_pure _ _ _ _ hf p q hp hq) u v hu.2 hv.2

theorem Sh.zipWith₂ (g : Int → Int → Int) (hu : Sh n u) (hv : Sh n v) : Sh n (List.zipWith (fun p q => List.zipWith g p q) u v) := by
  refine ⟨by rw [List.length_zipWith, hu.1, hv.1]; exact Nat.min_self _, fun r hr => ?_⟩
  obtain ⟨p, hp, q, hq, rfl⟩ := exists_of_mem_zipWith _ _ _ r hr
  rw [List.length_zipWith, hu.2 p hp, hv.2 q hq]
  rfl

theorem VecIn.zipWith₂ {g : Int → Int → Int} (hu : VecIn n lo₁ hi₁ u) (hv : VecIn n lo₂ hi₂ v)
    (hg : ∀ a b, lo₁ ≤ a ∧ a ≤ hi₁ → lo₂ ≤ b ∧ b ≤ hi₂ → lo' ≤ g a b ∧ g a b ≤ hi') :
    VecIn n lo' hi' (List.zipWith (fun p q => List.zipWith g p q) u v) := by
  refine ⟨Sh.zipWith₂ g hu.1 hv.1, fun r hr x hx => ?_⟩
  obtain ⟨p, hp, q, hq, rfl⟩ := exists_of_mem_zipWith _ _ _ r hr
  obtain ⟨a, ha, b, hb, rfl⟩ := exists_of_mem_zipWith _ _ _ x hx
  exact hg a b (hu.2 p hp a ha) (hv.2 q hq b hb)

theorem VecIn.zipWith₂_congr {g g' : Int → Int → Int} (hu : VecIn n lo₁ hi₁ u) (hv : VecIn n lo₂ hi₂ v)
    (h : ∀ a b, lo₁ ≤ a ∧ a ≤ hi₁ → lo₂ ≤ b ∧ b ≤ hi₂ → g a b = g' a b) :
    List.zipWith (fun p q => List.zipWith g p q) u v = List.zipWith (fun p q => List.zipWith g' p q) u v :=
  zipWith_congr_on _ _ u v fun p hp q hq => zipWith_congr_on _ _ p q fun a ha b hb => h a b (hu.2 p hp a ha) (hv.2 q hq b hb)

/-! The three-vector pass returns `List.zipWith (fun ap bc => zw3 g ap bc.1 bc.2) u (List.zip v t)`: this is the body of
    `attemptSpec.zw3L g u v t` (`Lemmas/SignSpec`, where the signer's hint is the one such pass), after which `Sh.zw3L` and
    `VecIn.zw3L` are named. -/

theorem VecIn.zipWith3M₂_eq {f : Int → Int → Int → M Int} {g : Int → Int → Int → Int} (hu : VecIn n lo₁ hi₁ u) (hv : VecIn n lo₂ hi₂ v)
    (ht : VecIn n lo₃ hi₃ t) (hf : ∀ a b c, lo₁ ≤ a ∧ a ≤ hi₁ → lo₂ ≤ b ∧ b ≤ hi₂ → lo₃ ≤ c ∧ c ≤ hi₃ → f a b c = .ok (g a b c)) :
    Impl.zipWith3M (fun p q s => Impl.zipWith3M f p q s) u v t = .ok (List.zipWith (fun ap (bc : Poly × Poly) => zw3 g ap bc.1 bc.2) u (List.zip v t)) :=
  zipWith3M_eq_zipWith _ (zw3 g) (fun p => ∀ x ∈ p, lo₁ ≤ x ∧ x ≤ hi₁) (fun q => ∀ x ∈ q, lo₂ ≤ x ∧ x ≤ hi₂) (fun s => ∀ x ∈ s, lo₃ ≤ x ∧ x ≤ hi₃)
    (fun p q s hp hq hs => zipWith3M_pure f g _ _ _ hf p q s hp hq hs) u v t hu.2 hv.2 ht.2

theorem Sh.zw3L (g : Int → Int → Int → Int) (hu : Sh n u) (hv : Sh n v) (ht : Sh n t) :
    Sh n (List.zipWith (fun ap (bc : Poly × Poly) => zw3 g ap bc.1 bc.2) u (List.zip v t)) := by
  refine ⟨by rw [List.length_zipWith, List.length_zip, hu.1, hv.1, ht.1, Nat.min_self, Nat.min_self], fun r hr => ?_⟩
  obtain ⟨p, hp, qs, hqs, rfl⟩ := exists_of_mem_zipWith _ _ _ r hr
  rw [zw3_length, hu.2 p hp, hv.2 _ (List.of_mem_zip hqs).1, ht.2 _ (List.of_mem_zip hqs).2]
  rfl

theorem VecIn.zw3L {g : Int → Int → Int → Int} (hu : VecIn n lo₁ hi₁ u) (hv : VecIn n lo₂ hi₂ v) (ht : VecIn n lo₃ hi₃ t)
    (hg : ∀ a b c, lo₁ ≤ a ∧ a ≤ hi₁ → lo₂ ≤ b ∧ b ≤ hi₂ → lo₃ ≤ c ∧ c ≤ hi₃ → lo' ≤ g a b c ∧ g a b c ≤ hi') :
    VecIn n lo' hi' (List.zipWith (fun ap (bc : Poly × Poly) => zw3 g ap bc.1 bc.2) u (List.zip v t)) := by
  refine ⟨Sh.zw3L g hu.1 hv.1 ht.1, fun r hr x hx => ?_⟩
  obtain ⟨p, hp, qs, hqs, rfl⟩ := exists_of_mem_zipWith _ _ _ r hr
  obtain ⟨a, ha, b, hb, c, hc, rfl⟩ := exists_of_mem_zw3 g _ _ _ x hx
  exact hg a b c (hu.2 p hp a ha) (hv.2 _ (List.of_mem_zip hqs).1 b hb) (ht.2 _ (List.of_mem_zip hqs).2 c hc)

end

end Fips204.Impl
