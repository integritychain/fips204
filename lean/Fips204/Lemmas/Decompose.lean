import Fips204.Spec.Arith
/-! `Spec.decompose` for any rounding parameter `g > 0` with `2 g m = q - 1`.  `r mod q` lies in exactly one interval
    `(2gk - g, 2gk + g]`, `0 ≤ k ≤ m`; Decompose returns `(k, r mod q - 2gk)`, except that the last interval
    (`k = m`, just below `q`) is folded onto `k = 0`.  Everything below is read off that index. -/
namespace Fips204.Spec
open Fips204 Fips204.Gen

/-- what Decompose needs of `gamma2`; `m` is the number of high-bits values -/
def Rnd (g m : Int) : Prop := 0 < g ∧ 2 * g * m = Q - 1

theorem rnd_44 : Rnd 95232 44 := ⟨by decide, by decide⟩
theorem rnd_65 : Rnd 261888 16 := ⟨by decide, by decide⟩

/-- the two gamma2 values that occur -/
def _root_.Fips204.K.G2 (g : Int) : Prop := g = 95232 ∨ g = 261888

theorem _root_.Fips204.K.G2.rnd {g : Int} (hg : K.G2 g) : Rnd g ((Q - 1) / (2 * g)) := by
  rcases hg with rfl | rfl
  · exact rnd_44
  · exact rnd_65

/-- multiples of `2g` are discrete: the only bridge between an index and its multiple that `omega` cannot cross -/
theorem le_of_two_mul_lt_succ {g x y : Int} (hg : 0 < g) (h : 2 * g * x < 2 * g * y + 2 * g) : x ≤ y := by
  have h' : 2 * g * x < 2 * g * (y + 1) := by rw [Int.mul_add, Int.mul_one]; exact h
  exact Int.lt_add_one_iff.mp (Int.lt_of_mul_lt_mul_left h' (by omega))

theorem two_mul_succ_le_of_lt {g x y : Int} (hg : 0 < g) (h : x + 1 ≤ y) : 2 * g * x + 2 * g ≤ 2 * g * y := by
  have := Int.mul_le_mul_of_nonneg_left h (show 0 ≤ 2 * g by omega)
  rwa [Int.mul_add, Int.mul_one] at this

theorem Rnd.div {g m : Int} (h : Rnd g m) : (Q - 1) / (2 * g) = m := by
  rw [← h.2]; exact Int.mul_ediv_cancel_left m (by have := h.1; omega)

theorem Rnd.one_le {g m : Int} (h : Rnd g m) : 1 ≤ m :=
  le_of_two_mul_lt_succ h.1 (by have := h.1; have := h.2; simp only [Q] at *; omega)

theorem Rnd.two_le {g m : Int} (h : Rnd g m) : 2 * g ≤ Q - 1 := by
  have := two_mul_succ_le_of_lt h.1 (show 0 + 1 ≤ m from h.one_le)
  rw [Int.mul_zero, h.2] at this; omega

theorem exists_idx (g x : Int) (hg : 0 < g) : ∃ k, 2 * g * k - g < x ∧ x ≤ 2 * g * k + g := by
  refine ⟨(x + g - 1) / (2 * g), ?_⟩
  have := Int.mul_ediv_add_emod (x + g - 1) (2 * g)
  have := Int.emod_nonneg (x + g - 1) (b := 2 * g) (by omega)
  have := Int.emod_lt_of_pos (x + g - 1) (b := 2 * g) (by omega)
  omega

theorem modpm_of_idx {g k x : Int} (hg : 0 < g) (h1 : 2 * g * k - g < x) (h2 : x ≤ 2 * g * k + g) :
    modpm (2 * g) x = x - 2 * g * k := by
  unfold modpm
  have e : x % (2 * g) = (x - 2 * g * k) % (2 * g) := (Int.sub_mul_emod_self_left x (2 * g) k).symm
  have h2g : 2 * g / 2 = g := Int.mul_ediv_cancel_left g (by decide)
  simp only [e, h2g]
  by_cases h : 0 ≤ x - 2 * g * k
  · rw [Int.emod_eq_of_lt h (by omega), if_neg (by omega)]
  · have e2 : (x - 2 * g * k + 2 * g * 1) % (2 * g) = x - 2 * g * k + 2 * g * 1 := Int.emod_eq_of_lt (by omega) (by omega)
    rw [Int.add_mul_emod_self_left] at e2
    rw [e2, if_pos (by omega)]; omega

theorem decompose_of_idx {g m k r : Int} (hR : Rnd g m) (h1 : 2 * g * k - g < r % Q) (h2 : r % Q ≤ 2 * g * k + g) :
    decompose g r = if k = m then (0, r % Q - Q) else (k, r % Q - 2 * g * k) := by
  unfold decompose
  simp only [modpm_of_idx hR.1 h1 h2]
  have e : r % Q - (r % Q - 2 * g * k) = 2 * g * k := by omega
  have c : (2 * g * k = Q - 1) = (k = m) :=
    propext ⟨fun h => Int.eq_of_mul_eq_mul_left (a := 2 * g) (by have := hR.1; omega) (h.trans hR.2.symm), fun h => h ▸ hR.2⟩
  rw [e, Int.mul_ediv_cancel_left k (by have := hR.1; omega : 2 * g ≠ 0)]
  simp only [c]
  split
  · next h => have := hR.2; subst h; congr 1; omega
  · rfl

theorem bits_of_idx {g m k r : Int} (hR : Rnd g m) (h1 : 2 * g * k - g < r % Q) (h2 : r % Q ≤ 2 * g * k + g) :
    highBits g r = (if k = m then 0 else k) ∧ lowBits g r = (if k = m then r % Q - Q else r % Q - 2 * g * k) := by
  unfold highBits lowBits
  rw [decompose_of_idx hR h1 h2]
  exact ⟨by split <;> rfl, by split <;> rfl⟩

theorem bits_view {g m : Int} (hR : Rnd g m) (r : Int) :
    ∃ k, 0 ≤ k ∧ k ≤ m ∧ 2 * g * k - g < r % Q ∧ r % Q ≤ 2 * g * k + g ∧
      highBits g r = (if k = m then 0 else k) ∧ lowBits g r = (if k = m then r % Q - Q else r % Q - 2 * g * k) := by
  obtain ⟨k, h1, h2⟩ := exists_idx g (r % Q) hR.1
  have hq : 0 ≤ r % Q ∧ r % Q < Q := ⟨Int.emod_nonneg _ (by decide), Int.emod_lt_of_pos _ (by decide)⟩
  have hM := hR.2
  exact ⟨k, le_of_two_mul_lt_succ hR.1 (by rw [Int.mul_zero]; omega), le_of_two_mul_lt_succ hR.1 (by omega), h1, h2, bits_of_idx hR h1 h2⟩

theorem Rnd.highBits_range {g m : Int} (hR : Rnd g m) (r : Int) : 0 ≤ highBits g r ∧ highBits g r ≤ m - 1 := by
  obtain ⟨k, k0, km, -, -, h, -⟩ := bits_view hR r
  have := hR.one_le
  rw [h]; split <;> omega

theorem Rnd.lowBits_range {g m : Int} (hR : Rnd g m) (r : Int) : -g ≤ lowBits g r ∧ lowBits g r ≤ g := by
  obtain ⟨k, -, -, h1, h2, -, hl⟩ := bits_view hR r
  obtain ⟨hg0, hM⟩ := hR
  rw [hl]
  split
  · next h => subst h; omega
  · omega

theorem succ_emod {m k : Int} (h0 : 0 ≤ k) (h1 : k < m) : (k + 1) % m = if k + 1 = m then 0 else k + 1 := by
  split
  · next h => rw [h, Int.emod_self]
  · exact Int.emod_eq_of_lt (by omega) (by omega)

theorem pred_emod {m k : Int} (h0 : 0 ≤ k) (h1 : k < m) : (k - 1) % m = if k = 0 then m - 1 else k - 1 := by
  split
  · have : (k - 1 + m * 1) % m = k - 1 + m * 1 := Int.emod_eq_of_lt (by omega) (by omega)
    rw [Int.add_mul_emod_self_left] at this; omega
  · exact Int.emod_eq_of_lt (by omega) (by omega)

theorem useHint_zero (g r : Int) : useHint g 0 r = highBits g r := by
  unfold useHint highBits
  simp

theorem useHint_one {g m : Int} (hR : Rnd g m) (r : Int) :
    useHint g 1 r = if lowBits g r > 0 then (if highBits g r + 1 = m then 0 else highBits g r + 1)
      else (if highBits g r = 0 then m - 1 else highBits g r - 1) := by
  have hr := hR.highBits_range r
  unfold useHint highBits lowBits at *
  rw [hR.div]
  generalize decompose g r = d at *
  obtain ⟨r1, r0⟩ := d
  dsimp only at *
  by_cases h0 : r0 > 0
  · simp only [h0, true_and, if_true]; exact succ_emod hr.1 (by omega)
  · simp only [h0, true_and, if_false, show r0 ≤ 0 by omega, if_true]; exact pred_emod hr.1 (by omega)

theorem Rnd.useHint_range {g m : Int} (hR : Rnd g m) (h r : Int) : 0 ≤ useHint g h r ∧ useHint g h r < m := by
  have hr := hR.highBits_range r
  have hm := hR.one_le
  unfold useHint highBits at *
  rw [hR.div]
  generalize decompose g r = d at *
  obtain ⟨r1, r0⟩ := d
  dsimp only at *
  -- a residue modulo `m` in the two hinted cases, `HighBits` itself otherwise
  split
  · exact ⟨Int.emod_nonneg _ (by omega), Int.emod_lt_of_pos _ (by omega)⟩
  · split
    · exact ⟨Int.emod_nonneg _ (by omega), Int.emod_lt_of_pos _ (by omega)⟩
    · omega

theorem useHint_flip {g m : Int} (hR : Rnd g m) (hm : 2 ≤ m) (r : Int) : useHint g 1 r ≠ useHint g 0 r := by
  rw [useHint_one hR, useHint_zero]
  repeat' split
  all_goals omega

theorem add_emod_cases (r z : Int) (hz : -Q ≤ z ∧ z ≤ Q) :
    (0 ≤ r % Q ∧ r % Q < Q) ∧ (0 ≤ (r + z) % Q ∧ (r + z) % Q < Q) ∧
      ((r + z) % Q = r % Q + z ∨ (r + z) % Q = r % Q + z - Q ∨ (r + z) % Q = r % Q + z + Q) := by
  simp only [Q] at *; omega

/-- a shift by at most `g` moves the interval index by at most one, or wraps between the last interval and the first -/
theorem idx_shift {g m k k' r z : Int} (hR : Rnd g m) (hz : -g ≤ z ∧ z ≤ g) (k0 : 0 ≤ k) (km : k ≤ m) (a1 : 2 * g * k - g < r % Q)
    (a2 : r % Q ≤ 2 * g * k + g) (k0' : 0 ≤ k') (km' : k' ≤ m) (b1 : 2 * g * k' - g < (r + z) % Q) (b2 : (r + z) % Q ≤ 2 * g * k' + g) :
    ((r + z) % Q = r % Q + z ∧ (k' = k - 1 ∨ k' = k ∨ k' = k + 1)) ∨ (k = m ∧ k' = 0) ∨ (k = 0 ∧ k' = m) := by
  have hg2 := hR.two_le
  obtain ⟨hg, hM⟩ := hR
  obtain ⟨hq, hq', h3⟩ := add_emod_cases r z (by omega)
  generalize r % Q = rp at *; generalize (r + z) % Q = sp at *
  rcases h3 with h3 | h3 | h3
  · have n1 : k' ≤ k + 1 := le_of_two_mul_lt_succ hg (by rw [Int.mul_add, Int.mul_one]; omega)
    have n2 : k ≤ k' + 1 := le_of_two_mul_lt_succ hg (by rw [Int.mul_add, Int.mul_one]; omega)
    exact Or.inl ⟨h3, by omega⟩
  · have n1 : m ≤ k := le_of_two_mul_lt_succ hg (by omega)
    have n2 : k' ≤ 0 := le_of_two_mul_lt_succ hg (by rw [Int.mul_zero]; omega)
    exact Or.inr (Or.inl ⟨by omega, by omega⟩)
  · have n1 : k ≤ 0 := le_of_two_mul_lt_succ hg (by rw [Int.mul_zero]; omega)
    have n2 : m ≤ k' := le_of_two_mul_lt_succ hg (by omega)
    exact Or.inr (Or.inr ⟨by omega, by omega⟩)

/-- a shift by at most `g` that changes the high bits moves them one step round the cycle, in the direction of the sign of
    the low bits; where `r + z` wraps modulo `q` the high bits stay (intervals `0` and `m` both give 0) -/
theorem hint_changed {g m : Int} (hR : Rnd g m) (r z : Int) (hz : -g ≤ z ∧ z ≤ g) (hne : highBits g r ≠ highBits g (r + z)) :
    useHint g 1 r = highBits g (r + z) := by
  rw [useHint_one hR]
  obtain ⟨k, k0, km, a1, a2, ha, ha'⟩ := bits_view hR r
  obtain ⟨k', k0', km', b1, b2, hb, -⟩ := bits_view hR (r + z)
  have hm := hR.one_le
  have hq : 0 ≤ r % Q ∧ r % Q < Q := ⟨Int.emod_nonneg _ (by decide), Int.emod_lt_of_pos _ (by decide)⟩
  rw [ha, hb] at hne; rw [ha, ha', hb]
  rcases idx_shift hR hz k0 km a1 a2 k0' km' b1 b2 with ⟨h3, hk⟩ | ⟨rfl, rfl⟩ | ⟨rfl, rfl⟩
  · obtain ⟨hg, hM⟩ := hR
    rw [h3] at b1 b2
    generalize r % Q = rp at *
    rcases hk with rfl | rfl | rfl
    · rw [Int.mul_sub, Int.mul_one] at b1 b2
      rw [if_neg (show ¬ k - 1 = m by omega)]
      by_cases hkm : k = m
      · rw [if_pos hkm, if_pos hkm, if_neg (by omega), if_pos rfl, hkm]
      · rw [if_neg hkm, if_neg hkm, if_neg (by omega), if_neg (by omega)]
    · exact absurd rfl hne
    · rw [Int.mul_add, Int.mul_one] at b1 b2
      have hkm : ¬ k = m := by omega
      rw [if_neg hkm, if_neg hkm, if_pos (by omega)]
  · rw [if_pos rfl, ite_self] at hne
    exact absurd rfl hne
  · rw [ite_self, if_pos rfl] at hne
    exact absurd rfl hne

/-- **UseHint(MakeHint(z, r), r) = HighBits(r + z)** for `|z| ≤ gamma2` -/
theorem hint_duality {g m : Int} (hR : Rnd g m) (r z : Int) (hz : -g ≤ z ∧ z ≤ g) :
    useHint g (if makeHint g z r then 1 else 0) r = highBits g (r + z) := by
  unfold makeHint
  by_cases h : highBits g r = highBits g (r + z)
  · simp only [h, ne_eq, not_true, decide_false, Bool.false_eq_true, if_false, useHint_zero]
  · simp only [h, ne_eq, not_false_eq_true, decide_true, if_true]; exact hint_changed hR r z hz h

theorem highBits_stable_rnd {g m : Int} (hR : Rnd g m) (r s b : Int) (hs : -b ≤ s ∧ s ≤ b)
    (hl : -(g - b) < lowBits g r ∧ lowBits g r < g - b) : highBits g (r + s) = highBits g r := by
  obtain ⟨k, k0, km, a1, a2, ha, ha'⟩ := bits_view hR r
  obtain ⟨k', k0', km', b1, b2, hb, -⟩ := bits_view hR (r + s)
  have hm := hR.one_le
  rw [ha'] at hl; rw [ha, hb]
  rcases idx_shift hR (by omega) k0 km a1 a2 k0' km' b1 b2 with ⟨h3, hk⟩ | ⟨rfl, rfl⟩ | ⟨rfl, rfl⟩
  · -- no wrap: `r mod q + s` is still strictly inside interval `k` (below `q`, if that is the last one)
    obtain ⟨hg, hM⟩ := hR
    rw [h3] at b1 b2
    generalize r % Q = rp at *
    by_cases hkm : k = m
    · subst hkm
      rw [if_pos rfl] at hl
      rcases hk with rfl | rfl | rfl
      · rw [Int.mul_sub, Int.mul_one] at b1 b2
        omega
      · rfl
      · omega
    · rw [if_neg hkm] at hl
      rcases hk with rfl | rfl | rfl
      · rw [Int.mul_sub, Int.mul_one] at b1 b2
        omega
      · rfl
      · rw [Int.mul_add, Int.mul_one] at b1 b2
        omega
  · rw [if_pos rfl, ite_self]
  · rw [ite_self, if_pos rfl]

/-- **small perturbations do not change the high bits when the low bits are small**: if `|LowBits(r)| < gamma2 - b` and
    `|s| ≤ b` then `HighBits(r + s) = HighBits(r)` (why the signer's `r0` test makes `w1` recoverable) -/
theorem highBits_stable (g r s b : Int) (hg : g = 95232 ∨ g = 261888) (hb : 0 ≤ b ∧ b ≤ g) (hs : -b ≤ s ∧ s ≤ b)
    (hl : -(g - b) < lowBits g r ∧ lowBits g r < g - b) : highBits g (r + s) = highBits g r :=
  highBits_stable_rnd (K.G2.rnd hg) r s b hs hl

theorem decompose_mod (g a b : Int) (h : a % Q = b % Q) : decompose g a = decompose g b := by
  unfold decompose; rw [h]

theorem highBits_mod (g a b : Int) (h : a % Q = b % Q) : highBits g a = highBits g b := by
  unfold highBits; rw [decompose_mod g a b h]

theorem lowBits_mod (g a b : Int) (h : a % Q = b % Q) : lowBits g a = lowBits g b := by
  unfold lowBits; rw [decompose_mod g a b h]

theorem useHint_mod (g h a b : Int) (hab : a % Q = b % Q) : useHint g h a = useHint g h b := by
  unfold useHint; rw [decompose_mod g a b hab]

theorem makeHint_mod (g z z' r r' : Int) (hr : r % Q = r' % Q) (hz : (r + z) % Q = (r' + z') % Q) :
    makeHint g z r = makeHint g z' r' := by
  unfold makeHint
  rw [highBits_mod g r r' hr, highBits_mod g (r + z) (r' + z') hz]

theorem makeHint_mod_z (g z z' r : Int) (h : (z - z') % Q = 0) : makeHint g z r = makeHint g z' r :=
  makeHint_mod g z z' r r rfl (by simp only [Q] at *; omega)

theorem modpm_mod (a b : Int) (h : a % Q = b % Q) : modpm Q a = modpm Q b := by
  unfold modpm; rw [h]

theorem power2round_spec (r : Int) : (power2round r).1 * 8192 + (power2round r).2 = r % Q ∧
    -4096 < (power2round r).2 ∧ (power2round r).2 ≤ 4096 ∧ 0 ≤ (power2round r).1 ∧ (power2round r).1 ≤ 1023 := by
  unfold power2round modpm
  simp only [Q]
  split <;> omega

theorem modpm_idem (x : Int) : modpm Q (modpm Q x) = modpm Q x := by
  unfold modpm; simp only [Q]; split <;> split <;> omega

end Fips204.Spec

namespace Fips204.Impl
open Fips204 Fips204.Gen

/-- the range of `UseHint` in the form `w1_encode` takes it -/
theorem useHint_range (g h r : Int) (hg : g = 95232 ∨ g = 261888) :
    0 ≤ Spec.useHint g h r ∧ Spec.useHint g h r ≤ (Q - 1) / (2 * g) - 1 := by
  have := (K.G2.rnd hg).useHint_range h r
  omega

end Fips204.Impl
