import Fips204.Impl.Encode
import Fips204.Lemmas.DigitCodec
/-!
  `bit_unpack` and `bit_pack` (Algorithms 16-19, `conversion.rs`) compute `decodeP` and `encodeP` (`Lemmas/DigitCodec`): both
  loops keep the same bit queue (`Acc`).  `unpackMany` (`encodings.rs`) applies `bit_unpack` to one slice after the other.
-/
namespace Fips204.Impl
open Fips204 Fips204.Gen

def uval (P : Nat) (ds : List Nat) (t : Nat) : Nat := numF P ds + t * P ^ ds.length

/-- State of a bit queue: `bi` bits wait in the accumulator `t`; the `c`-bit digits `ds` have left it for `out` (through `g`, last
    first).  `bits` counts all bits that ever entered, `N` is their number.  `bit_unpack` pushes bytes and pops fields
    (`g = unfld a b`, `c = bitlen`), `bit_pack` pushes fields and pops bytes (`g = id`, `c = 8`). -/
def Acc {α} (g : Nat → α) (c N bits t bi : Nat) (out : List α) : Prop :=
  ∃ ds : List Nat, out = (ds.map g).reverse ∧ t < 2 ^ bi ∧ ds.length * c + bi = bits ∧ (∀ d ∈ ds, d < 2 ^ c) ∧ uval (2 ^ c) ds t = N

theorem Acc.nil {α} (g : Nat → α) (c : Nat) : Acc g c 0 0 0 0 [] :=
  ⟨[], rfl, by simp, by simp, by simp, by simp [uval, numF]⟩

theorem Acc.lt {α} {g : Nat → α} {c N bits t bi : Nat} {out : List α} (h : Acc g c N bits t bi out) : t < 2 ^ bi := by
  obtain ⟨_, _, ht, _⟩ := h
  exact ht

theorem Acc.out_len {α} {g : Nat → α} {c N bits t bi : Nat} {out : List α} (h : Acc g c N bits t bi out) :
    out.length * c + bi = bits := by
  obtain ⟨ds, rfl, _, hcnt, _, _⟩ := h
  simpa using hcnt

theorem Acc.pop {α} {g : Nat → α} {c N bits t bi : Nat} {out : List α} (h : Acc g c N bits t bi out) (hge : c ≤ bi) :
    Acc g c N bits (t / 2 ^ c) (bi - c) (g (t % 2 ^ c) :: out) := by
  obtain ⟨ds, rfl, ht, hcnt, hds, hval⟩ := h
  refine ⟨ds ++ [t % 2 ^ c], by simp, ?_, ?_, ?_, ?_⟩
  · apply Nat.div_lt_of_lt_mul
    rw [← Nat.pow_add, show c + (bi - c) = bi by omega]
    exact ht
  · simp only [List.length_append, List.length_singleton, Nat.add_mul, Nat.one_mul]
    omega
  · intro d hd
    rcases List.mem_append.mp hd with hd | hd
    · exact hds d hd
    · rw [List.mem_singleton.mp hd]
      exact Nat.mod_lt _ (Nat.two_pow_pos c)
  · rw [← hval]
    unfold uval
    rw [numF_append, List.length_append, List.length_singleton, Nat.pow_succ]
    simp only [numF]
    have := Nat.div_add_mod t (2 ^ c)
    generalize t / 2 ^ c = q at *
    generalize t % 2 ^ c = r at *
    subst this
    grind

theorem Acc.push {α} {g : Nat → α} {c N bits t bi : Nat} {out : List α} (h : Acc g c N bits t bi out) (x k : Nat) (hx : x < 2 ^ k) :
    Acc g c (N + x * 2 ^ bits) (bits + k) (x * 2 ^ bi + t) (bi + k) out := by
  obtain ⟨ds, rfl, ht, hcnt, hds, hval⟩ := h
  refine ⟨ds, rfl, ?_, by omega, hds, ?_⟩
  · rw [Nat.pow_add]
    have : (x + 1) * 2 ^ bi ≤ 2 ^ k * 2 ^ bi := Nat.mul_le_mul_right _ hx
    rw [Nat.add_mul, Nat.one_mul] at this
    rw [Nat.mul_comm (2 ^ bi)]
    omega
  · rw [← hval, ← hcnt]
    unfold uval
    rw [Nat.mul_comm ds.length, Nat.pow_add, Nat.pow_mul]
    grind

theorem Acc.full {α} {g : Nat → α} {c N t bi n : Nat} {out : List α} (h : Acc g c N (n * c) t bi out) (hc : 0 < c) (hbi : bi < c) :
    out.reverse = (digits (2 ^ c) n N).map g := by
  obtain ⟨ds, rfl, ht, hcnt, hds, hval⟩ := h
  have hn : ds.length = n := by
    have h1 : ds.length * c ≤ n * c := by omega
    have h2 : n * c < (ds.length + 1) * c := by rw [Nat.add_mul, Nat.one_mul]; omega
    have := Nat.le_of_mul_le_mul_right h1 hc
    have := Nat.lt_of_mul_lt_mul_right h2
    omega
  have hbi0 : bi = 0 := by rw [hn] at hcnt; omega
  have ht0 : t = 0 := by rw [hbi0] at ht; simpa using ht
  rw [List.reverse_reverse, ← hval, ht0, ← hn]
  unfold uval
  rw [Nat.zero_mul, Nat.add_zero, digits_numF _ ds hds]

/-- A step of a fold over the queue: of an element `x` with `P x` it pushes the `k` bits `f x` and then pops whole digits, as long as no
    more than `room` bits enter. -/
def Acc.Step {α β} (g : Nat → α) (c k : Nat) (f : β → Nat) (P : β → Prop) (room : Nat)
    (step : Int × Nat × List α → β → M (Int × Nat × List α)) : Prop :=
  ∀ (N bits t bi : Nat) (out : List α) (x : β), Acc g c N bits t bi out → bi < c → P x → bits + k ≤ room →
    ∃ (t' bi' : Nat) (out' : List α), step ((t : Int), bi, out) x = .ok ((t' : Int), bi', out') ∧
      Acc g c (N + f x * 2 ^ bits) (bits + k) t' bi' out' ∧ bi' < c

theorem Acc.foldlM {α β} {g : Nat → α} {c k room : Nat} {f : β → Nat} {P : β → Prop} {step : Int × Nat × List α → β → M (Int × Nat × List α)}
    (hstep : Acc.Step g c k f P room step) (hc : 0 < c) (xs : List β) (hP : ∀ x ∈ xs, P x) (hroom : xs.length * k ≤ room) :
    ∃ (t bi : Nat) (out : List α), xs.foldlM step (0, 0, []) = .ok ((t : Int), bi, out) ∧
      Acc g c (numF (2 ^ k) (xs.map f)) (xs.length * k) t bi out ∧ bi < c := by
  obtain ⟨st', hfold, t, bi, out, rfl, hacc, hbi⟩ :=
    foldlM_ok_prefix step
      (fun pre st => ∃ (t bi : Nat) (out : List α), st = ((t : Int), bi, out) ∧
        Acc g c (numF (2 ^ k) (pre.map f)) (pre.length * k) t bi out ∧ bi < c) xs
      (fun pre x post st e ⟨t, bi, out, hst, hi, hbi⟩ => by
        subst hst
        have hl : pre.length * k + k ≤ room := by
          rw [e, List.length_append, List.length_cons, Nat.add_mul, Nat.add_mul, Nat.one_mul] at hroom
          omega
        obtain ⟨t', bi', out', h1, h2, h3⟩ := hstep _ _ t bi out x hi hbi (hP x (by rw [e]; simp)) hl
        refine ⟨_, h1, t', bi', out', rfl, ?_, h3⟩
        rw [List.map_append, List.map_cons, List.map_nil, numF_snoc, List.length_map, ← Nat.pow_mul, Nat.mul_comm k,
          List.length_append, List.length_singleton, Nat.add_mul, Nat.one_mul]
        exact h2)
      (0, 0, []) ⟨0, 0, [], rfl, by simpa [numF] using Acc.nil g c, hc⟩
  exact ⟨t, bi, out, hfold, hacc, hbi⟩

/-- A pair `(a, b)` that `bit_pack` / `bit_unpack` are called with: what their assertions ask of it (`lo`, `hi`), the width `bl` they
    compute (`bits`; at most 20, so that the accumulators stay within 27 bits, see `drainCoeffs_ok`), and that `bl` bits hold the largest
    field `a + b` (`fit`, which `bits` implies: `Pair.of_bitLen`, `Lemmas/Params`). -/
structure Pair (m : Mode) (a b : Int) (bl : Nat) : Prop where
  lo : 0 ≤ a ∧ a < 1048576
  hi : 1 ≤ b ∧ b < 1048576
  bits : bitLen m (a + b) = .ok bl
  width : 1 ≤ bl ∧ bl ≤ 20
  fit : a + b < 2 ^ bl

theorem drainCoeffs_len (m : Mode) (a b : Int) (bl : Nat) : ∀ (fuel : Nat) (t : Int) (bi : Nat) (out : List Int) (st' : Int × Nat × List Int),
    drainCoeffs m a b bl fuel t bi out = .ok st' → out.length ≤ st'.2.2.length := by
  intro fuel
  induction fuel with
  | zero => intro t bi out st' h; obtain rfl := pure_eq_ok.mp h; exact Nat.le_refl _
  | succ fuel ih =>
    intro t bi out st' h
    unfold drainCoeffs at h
    simp only [ite_eq_ok, bind_eq_ok, pure_eq_ok] at h
    rcases h with ⟨-, ⟨-, c, -, h⟩ | ⟨-, c, -, h⟩⟩ | ⟨-, rfl⟩
    · have := ih _ _ _ _ h
      rw [List.length_cons] at this
      omega
    · have := ih _ _ _ _ h
      rw [List.length_cons] at this
      omega
    · exact Nat.le_refl out.length

/-- Draining pops fields until less than one is left.  `bi ≤ 27`: at most `bl - 1 ≤ 19` bits wait when a byte enters, so the
    accumulator never holds more than 27 bits and stays a non-negative `i32`; `bl ≤ 20` is met by every pair `(a, b)` in use
    (it is not forced by `a, b < 2^20`). -/
theorem drainCoeffs_ok (m : Mode) (a b : Int) (bl : Nat) (hbl : 1 ≤ bl ∧ bl ≤ 20) (hb : 0 ≤ b ∧ b < 1048576) (N bits : Nat) :
    ∀ (fuel t bi : Nat) (out : List Int), Acc (unfld a b) bl N bits t bi out → bi < (fuel + 1) * bl → bi ≤ 27 →
      ∃ (t' bi' : Nat) (out' : List Int), drainCoeffs m a b bl fuel (t : Int) bi out = .ok ((t' : Int), bi', out') ∧
        Acc (unfld a b) bl N bits t' bi' out' ∧ bi' < bl := by
  intro fuel
  induction fuel with
  | zero => intro t bi out h hbi _; exact ⟨t, bi, out, rfl, h, by omega⟩
  | succ fuel ih =>
    intro t bi out h hbi h27
    unfold drainCoeffs
    by_cases hge : bi ≥ bl
    · have ht27 : t < 2 ^ 27 := Nat.lt_of_lt_of_le h.lt (Nat.pow_le_pow_right (by decide) h27)
      have hr20 : t % 2 ^ bl < 2 ^ 20 :=
        Nat.lt_of_lt_of_le (Nat.mod_lt _ (Nat.two_pow_pos bl)) (Nat.pow_le_pow_right (by decide) hbl.2)
      have hmask : band .i32 (t : Int) (2 ^ bl - 1) = ((t % 2 ^ bl : Nat) : Int) := by
        have h2 : (((2:Nat) ^ bl : Nat) : Int) ≤ ((2 ^ 31 : Nat) : Int) :=
          Int.ofNat_le.mpr (Nat.pow_le_pow_right (by decide) (show bl ≤ 31 by omega))
        have hc : (2:Int) ^ bl - 1 + 1 = ((2 ^ bl : Nat) : Int) := by rw [Int.sub_add_cancel, Int.natCast_pow]; rfl
        rw [band_low .i32 t _ bl hc (show _ ≤ (2147483647 : Int) by omega) (by omega) (show _ ≤ (2147483647 : Int) by omega), hc]
        rfl
      -- the branches `a = 0` / `a > 0` of the source differ only in how the field becomes a coefficient
      have hc : ∀ k : Int → M (Int × Nat × List Int),
          (if a = 0 then pure ((t % 2 ^ bl : Nat) : Int) >>= k
            else arith .i32 m "conversion.rs:bit_unpack:b-tmask" (b - ((t % 2 ^ bl : Nat) : Int)) >>= k) = k (unfld a b (t % 2 ^ bl)) := by
        intro k
        unfold unfld
        by_cases ha : a = 0
        · rw [if_pos ha, if_pos ha, pure_eq, ok_bind]
        · rw [if_neg ha, if_neg ha]
          rw [arith_i32 _ _ _ (by omega) (by omega), ok_bind]
      have hdiv : ((t : Int)) / 2 ^ bl = ((t / 2 ^ bl : Nat) : Int) := by simp
      rw [if_pos hge]
      simp only [hmask, hdiv, hc]
      exact ih _ _ _ (h.pop hge) (by rw [Nat.add_mul, Nat.one_mul] at hbi; omega) (by omega)
    · rw [if_neg hge]
      exact ⟨t, bi, out, rfl, h, by omega⟩

theorem unpackStep_ok (m : Mode) (a b : Int) (bl : Nat) (hbl : 1 ≤ bl ∧ bl ≤ 20) (hb : 0 ≤ b ∧ b < 1048576) :
    Acc.Step (unfld a b) bl 8 id (· < 256) (256 * bl) (unpackStep m a b bl) := by
  intro N bits t bi out byte h hbi hbyte hn
  have h8 := h.push byte 8 hbyte
  have ht := h.lt
  have hp19 : (2:Nat) ^ bi ≤ 2 ^ 19 := Nat.pow_le_pow_right (by decide) (by omega)
  have hprod : byte * 2 ^ bi ≤ 255 * 2 ^ 19 := Nat.mul_le_mul (by omega) hp19
  have hsum : byte * 2 ^ bi + t ≤ 2147483647 := by omega
  have hfuel : bi + 8 < (8 + 1) * bl := by rw [Nat.add_mul, Nat.one_mul]; omega
  have hsh : shl .i32 m "conversion.rs:bit_unpack:<<bit_index" (Int.ofNat byte) (bi : Int) = .ok (((byte * 2 ^ bi : Nat)) : Int) :=
    shl_nat .i32 m _ byte bi (show bi < 32 by omega) (show _ ≤ (2147483647 : Int) by omega)
  have hbor : bor .i32 (t : Int) (((byte * 2 ^ bi : Nat)) : Int) = ((byte * 2 ^ bi + t : Nat) : Int) := by
    rw [bor_comm]
    exact bor_disjoint .i32 byte t bi ht (show _ ≤ (2147483647 : Int) by omega)
  obtain ⟨t', bi', out', hr, hi', hbi'⟩ :=
    drainCoeffs_ok m a b bl hbl hb _ _ 8 _ _ out h8 hfuel (Nat.add_le_add_right (show bi ≤ 19 by omega) 8)
  have hlen : ¬ out'.length > 256 := by
    have h1 : out'.length * bl ≤ 256 * bl := by have := hi'.out_len; omega
    exact Nat.not_lt.mpr (Nat.le_of_mul_le_mul_right h1 (by omega))
  refine ⟨t', bi', out', ?_, hi', hbi'⟩
  unfold unpackStep
  simp only [hsh, ok_bind, hbor, hr, if_neg hlen, pure_eq]

theorem bitUnpack_eq {m : Mode} {a b : Int} {bl : Nat} (P : Pair m a b bl) (v : List Nat) (hv : ∀ x ∈ v, x < 256) (hlen : v.length = 32 * bl) :
    bitUnpack m v a b = .ok (if inR a b (decodeP a b bl v) then some (decodeP a b bl v) else none) := by
  have ha := P.lo
  have hb := P.hi
  have hbl2 := P.width
  obtain ⟨t, bi, out, hfold, hacc, hbi⟩ := Acc.foldlM (unpackStep_ok m a b bl hbl2 ⟨by omega, hb.2⟩) (by omega) v hv (by omega)
  rw [List.map_id] at hacc
  have hdec : out.reverse = decodeP a b bl v := Acc.full (n := 256) (by rw [show 256 * bl = v.length * 8 by omega]; exact hacc) (by omega) hbi
  unfold bitUnpack
  rw [dassert_dec m _ _ (by simp [ha.1, ha.2]), ok_bind, dassert_dec m _ _ (by simp [hb.1, hb.2]), ok_bind,
    arith_i32 _ _ _ (by omega) (by omega), ok_bind, P.bits, ok_bind, dassert_dec m _ _ (by simp [hlen]), ok_bind, if_neg (by omega),
    hfold, ok_bind]
  simp only [hdec]
  rw [show 256 - (decodeP a b bl v).length = 0 by rw [decodeP_length], List.replicate_zero, List.append_nil,
    isInRange_eq m _ a b (by omega), ok_bind]
  split <;> rfl

theorem drainBytes_ok (N bits : Nat) : ∀ (fuel t bi : Nat) (out : List Nat), Acc id 8 N bits t bi out → bi < 8 * (fuel + 1) →
    ∃ (t' bi' : Nat) (out' : List Nat), drainBytes fuel (t : Int) bi out = ((t' : Int), bi', out') ∧ Acc id 8 N bits t' bi' out' ∧ bi' < 8 := by
  intro fuel
  induction fuel with
  | zero => intro t bi out h hbi; exact ⟨t, bi, out, rfl, h, by omega⟩
  | succ fuel ih =>
    intro t bi out h hbi
    unfold drainBytes
    by_cases hgt : bi > 7
    · rw [if_pos hgt, show (t : Int) / 256 = ((t / 2 ^ 8 : Nat) : Int) by simp,
        show ((t : Int) % 256).toNat = id (t % 2 ^ 8) by simp; omega]
      exact ih _ _ _ (h.pop hgt) (by omega)
    · rw [if_neg hgt]
      exact ⟨t, bi, out, rfl, h, by omega⟩

/-- One field enters, whole bytes leave.  At most 7 bits wait when a field of at most 20 bits enters, so the `u32` accumulator holds
    at most 27 bits. -/
theorem packStep_ok (m : Mode) (a b : Int) (bl outLen : Nat) (hbl : bl ≤ 20) (ha : 0 ≤ a) (hab : a + b < 2 ^ bl) :
    Acc.Step id 8 bl (fld a b) (fun c => -a ≤ c ∧ c ≤ b) (8 * outLen) (packStep m a b bl outLen) := by
  intro N bits t bi out coeff h hbi hc hroom
  have hf := fld_lt a b bl hab coeff hc
  have hpush := h.push _ bl hf
  have ht := h.lt
  have hf20 : fld a b coeff < 2 ^ 20 := Nat.lt_of_lt_of_le hf (Nat.pow_le_pow_right (by decide) hbl)
  have hp7 : (2:Nat) ^ bi ≤ 2 ^ 7 := Nat.pow_le_pow_right (by decide) (Nat.le_of_lt_succ hbi)
  have hprod : fld a b coeff * 2 ^ bi ≤ 1048575 * 2 ^ 7 := Nat.mul_le_mul (by omega) hp7
  have hsum : fld a b coeff * 2 ^ bi + t ≤ 4294967295 := by omega
  -- `abs_diff` / `unsigned_abs` of an in-range coefficient is its field
  have hv : (if a > 0 then absI (b - coeff) else absI coeff) = ((fld a b coeff : Nat) : Int) := by
    unfold fld
    by_cases ha0 : a = 0
    · rw [if_neg (by omega), if_pos ha0, absI_eq, if_neg (by omega)]
      omega
    · rw [if_pos (by omega), if_neg ha0, absI_eq, if_neg (by omega)]
      omega
  have hsh : shl .u32 m "conversion.rs:bit_pack:<<bit_index" ((fld a b coeff : Nat) : Int) (bi : Int) =
      .ok (((fld a b coeff * 2 ^ bi : Nat)) : Int) :=
    shl_nat .u32 m _ _ bi (show bi < 32 by omega) (show _ ≤ (4294967295 : Int) by omega)
  have hbor : bor .u32 (t : Int) (((fld a b coeff * 2 ^ bi : Nat)) : Int) = ((fld a b coeff * 2 ^ bi + t : Nat) : Int) :=
    (bor_comm _ _ _).trans (bor_disjoint .u32 _ t bi ht (show _ ≤ (4294967295 : Int) by omega))
  obtain ⟨t', bi', out', hr, hi', hbi'⟩ := drainBytes_ok _ _ 8 _ _ out hpush (by omega)
  have hlen : ¬ out'.length > outLen := by have := hi'.out_len; omega
  refine ⟨t', bi', out', ?_, hi', hbi'⟩
  unfold packStep
  simp only [hv, hsh, ok_bind, hbor, hr, if_neg hlen, pure_eq]

theorem bitPack_eq {m : Mode} {a b : Int} {bl : Nat} (P : Pair m a b bl) (w : Poly) (hw : ∀ c ∈ w, -a ≤ c ∧ c ≤ b)
    (hlen : w.length = 256) : bitPack m w a b (32 * bl) = .ok (encodeP a b bl w) := by
  have ha := P.lo
  have hb := P.hi
  have hbl2 := P.width
  obtain ⟨t, bi, out, hfold, hacc, hbi⟩ := Acc.foldlM (packStep_ok m a b bl (32 * bl) hbl2.2 ha.1 P.fit) (by omega) w hw (by rw [hlen]; omega)
  have henc : out.reverse = encodeP a b bl w := by
    have := Acc.full (n := 32 * bl) (by rw [show 32 * bl * 8 = 256 * bl by omega, ← hlen]; exact hacc) (by omega) hbi
    rw [this, List.map_id]
    rfl
  unfold bitPack
  rw [dassert_dec m _ _ (by simp [ha.1, ha.2]), ok_bind, dassert_dec m _ _ (by simp [hb.1, hb.2]), ok_bind,
    dassertM_eq m _ _ (by rw [isInRange_eq m w a b (by omega), (inR_iff a b w).mpr hw]), ok_bind,
    arith_i32 _ _ _ (by omega) (by omega), ok_bind, P.bits]
  simp only [ok_bind, pure_eq, show (w.length * bl == 32 * bl * 8) = true by rw [hlen]; simp; omega, dassertM_true, hfold, henc]
  rw [show 32 * bl - (encodeP a b bl w).length = 0 by rw [encodeP_length, Nat.sub_self], List.replicate_zero, List.append_nil]

theorem bitUnpack_exact {m : Mode} {a b : Int} {bl : Nat} (P : Pair m a b bl) (v : List Nat) (hpow : a + b + 1 = 2 ^ bl)
    (hv : ∀ x ∈ v, x < 256) (hlen : v.length = 32 * bl) :
    ∃ w : List Int, bitUnpack m v a b = .ok (some w) ∧ w.length = 256 ∧ ∀ c ∈ w, -a ≤ c ∧ c ≤ b := by
  have hr := inR_decodeP_exact a b bl hpow v
  exact ⟨_, by rw [bitUnpack_eq P v hv hlen, if_pos hr], decodeP_length .., (inR_iff ..).mp hr⟩

theorem bitPack_bitUnpack {m : Mode} {a b : Int} {bl : Nat} (P : Pair m a b bl) (v : List Nat) (hv : ∀ x ∈ v, x < 256)
    (hlen : v.length = 32 * bl) (w : Poly) (h : bitUnpack m v a b = .ok (some w)) : bitPack m w a b (32 * bl) = .ok v := by
  rw [bitUnpack_eq P v hv hlen] at h
  split at h
  · next hr =>
    cases h
    rw [bitPack_eq P _ ((inR_iff ..).mp hr) (decodeP_length ..), encodeP_decodeP a b bl v hv hlen]
  · cases h

theorem bitUnpack_bitPack {m : Mode} {a b : Int} {bl : Nat} (P : Pair m a b bl) (w : Poly) (hw : ∀ c ∈ w, -a ≤ c ∧ c ≤ b)
    (hlen : w.length = 256) :
    ∃ v, bitPack m w a b (32 * bl) = .ok v ∧ v.length = 32 * bl ∧ (∀ x ∈ v, x < 256) ∧ bitUnpack m v a b = .ok (some w) := by
  refine ⟨_, bitPack_eq P w hw hlen, encodeP_length .., encodeP_lt a b bl w, ?_⟩
  rw [bitUnpack_eq P _ (encodeP_lt a b bl w) (encodeP_length ..), decodeP_encodeP a b bl w P.fit hw hlen,
    if_pos ((inR_iff ..).mpr hw)]

def seg (bytes : List Nat) (start step i : Nat) : List Nat := (bytes.drop (start + i * step)).take step

theorem seg_length (bytes : List Nat) (start step i : Nat) (h : start + (i * step + step) ≤ bytes.length) :
    (seg bytes start step i).length = step := by
  rw [seg, List.length_take, List.length_drop]
  omega

theorem slice_seg (site : String) (bytes : List Nat) (start step i : Nat) (h : start + (i * step + step) ≤ bytes.length) :
    slice site bytes (start + i * step) (start + (i + 1) * step) = .ok (seg bytes start step i) := by
  rw [slice_eq _ _ _ _ (by rw [Nat.add_mul, Nat.one_mul]; omega), seg, Nat.add_mul, Nat.one_mul]
  congr 2
  omega

theorem unpackMany_eq {m : Mode} {a b : Int} {bl : Nat} (P : Pair m a b bl) (site : String) (bytes : List Nat) (start : Nat) :
    ∀ (is : List Nat) (acc : List Poly), (∀ i ∈ is, start + (i + 1) * (32 * bl) ≤ bytes.length) →
      (∀ i ∈ is, ∀ x ∈ seg bytes start (32 * bl) i, x < 256) →
      unpackMany m site bytes start (32 * bl) a b is acc =
        .ok (if is.all (fun i => inR a b (decodeP a b bl (seg bytes start (32 * bl) i)))
          then some (acc.reverse ++ is.map (fun i => decodeP a b bl (seg bytes start (32 * bl) i))) else none) := by
  intro is
  induction is with
  | nil => intro acc _ _; simp [unpackMany, pure_eq]
  | cons i is ih =>
    intro acc hlen hb
    have hi := hlen i (List.mem_cons_self ..)
    rw [Nat.add_mul, Nat.one_mul] at hi
    unfold unpackMany
    rw [slice_seg site bytes start (32 * bl) i hi, ok_bind, bitUnpack_eq P _ (hb i (List.mem_cons_self ..)) (seg_length _ _ _ _ hi), ok_bind,
      List.all_cons]
    cases inR a b (decodeP a b bl (seg bytes start (32 * bl) i)) with
    | false => simp [pure_eq]
    | true =>
      simp only [if_true, Bool.true_and]
      rw [ih _ (fun j hj => hlen j (List.mem_cons_of_mem _ hj)) (fun j hj => hb j (List.mem_cons_of_mem _ hj))]
      simp

/-! ### what `bit_unpack` and `unpackMany` accept, for any byte string

    No hypothesis on the bytes or their number: in release builds the length assertion is not made, so a string of the wrong length
    can still be accepted, and `expand_private` must be understood on whatever it is handed.  A returned vector went through
    `bit_unpack`, which pads to 256 coefficients and returns only what `is_in_range` has approved. -/

theorem unpackStep_len (m : Mode) (a b : Int) (bl : Nat) (st st' : Int × Nat × List Int) (byte : Nat)
    (h : unpackStep m a b bl st byte = .ok st') : st'.2.2.length ≤ 256 := by
  obtain ⟨temp, bi, out⟩ := st
  simp only [unpackStep, bind_eq_ok, pure_eq_ok, ite_eq_ok, Prod.exists, reduceCtorEq, and_false, false_or] at h
  -- the shift, the drained state with output `o1`, the bound check
  obtain ⟨_, -, _, _, o1, -, hle, rfl⟩ := h
  exact Nat.le_of_not_gt hle

theorem bitUnpack_accepts (m : Mode) (v : List Nat) (a b : Int) (t : Poly) (h : bitUnpack m v a b = .ok (some t)) :
    t.length = 256 ∧ isInRange m t a b = .ok true := by
  simp only [bitUnpack, bind_eq_ok, pure_eq_ok, ite_eq_ok, throw_eq_ok, Prod.exists, reduceCtorEq, and_false, false_or, or_false,
    Option.some.injEq] at h
  -- in the order of the model's text: assert a, assert b, a + b, bitlen `bl`, assert length, `bl ≠ 0`, the fold with output `out`,
  -- the range test
  obtain ⟨_, -, _, -, _, -, bl, -, _, -, -, _, _, out, hst, _, hin, rfl, rfl⟩ := h
  have hol : out.length ≤ 256 := foldlM_invariant (unpackStep m a b bl) (fun _ s => s.2.2.length ≤ 256)
    (fun x _ s s' _ hs => unpackStep_len m a b bl s s' x hs) v _ _ (Nat.zero_le _) hst
  refine ⟨?_, hin⟩
  rw [List.length_append, List.length_replicate, List.length_reverse]
  omega

/-- for a lower bound that fits i32, "`is_in_range` said yes" is the range -/
theorem bitUnpack_range (m : Mode) (v : List Nat) (a b : Int) (t : Poly) (ha : 0 ≤ a ∧ a ≤ 2147483647)
    (h : bitUnpack m v a b = .ok (some t)) : t.length = 256 ∧ ∀ c ∈ t, -a ≤ c ∧ c ≤ b := by
  obtain ⟨hl, hr⟩ := bitUnpack_accepts m v a b t h
  rw [isInRange_eq m t a b (by omega)] at hr
  exact ⟨hl, (inR_iff a b t).mp (ok_inj hr)⟩

theorem unpackMany_all (m : Mode) (site : String) (bytes : List Nat) (start step : Nat) (a b : Int) (P : Poly → Prop)
    (hP : ∀ v t, bitUnpack m v a b = .ok (some t) → P t) :
    ∀ (is : List Nat) (acc z : List Poly), (∀ q ∈ acc, P q) →
      unpackMany m site bytes start step a b is acc = .ok (some z) → z.length = acc.length + is.length ∧ ∀ q ∈ z, P q := by
  intro is
  induction is with
  | nil =>
    intro acc z hacc h
    simp only [unpackMany, pure_eq_ok, Option.some.injEq] at h
    subst h
    exact ⟨by rw [List.length_reverse]; rfl, fun q hq => hacc q (List.mem_reverse.mp hq)⟩
  | cons i is ih =>
    intro acc z hacc h
    simp only [unpackMany, bind_eq_ok, pure_eq_ok, Option.exists, reduceCtorEq, and_false, false_or] at h
    obtain ⟨sl, -, t, hr, h⟩ := h
    obtain ⟨h1, h2⟩ := ih (t :: acc) z (fun q hq => by
      rcases List.mem_cons.mp hq with rfl | hq
      · exact hP sl q hr
      · exact hacc q hq) h
    exact ⟨by rw [h1, List.length_cons, List.length_cons]; omega, h2⟩

end Fips204.Impl
