import Fips204.Lemmas.SpecRoundTrip
/-! What the rest of the development uses of the seven encodings of `src/encodings.rs`, each read off `Lemmas/SpecEncode` (the function is
    `.ok` of the standard's) and `Lemmas/SpecRoundTrip` (the standard's codecs are mutually inverse). -/
namespace Fips204.Impl
open Fips204 Fips204.Gen

theorem w1Encode_ok (m : Mode) (p : ParamSet)
    (hg : (p.gamma2 = 95232 ∧ p.w1Bits = 6) ∨ (p.gamma2 = 261888 ∧ p.w1Bits = 4)) (w1 : List Poly)
    (h : VecIn p.k 0 ((Q - 1) / (2 * p.gamma2) - 1) w1) : ∃ out, w1Encode m p w1 p.w1Len = .ok out :=
  ⟨_, w1Encode_is_algorithm_28 m p hg w1 h.1 h.2⟩

theorem pkEncode_ok (m : Mode) (p : ParamSet) (rho : List Nat) (t1 : List Poly) (hr : rho.length = 32)
    (hcfg : p.pkLen = 32 + 32 * p.k * blqd) (h : VecIn p.k 0 1023 t1) : ∃ out, pkEncode m p rho t1 = .ok out :=
  ⟨_, pkEncode_is_algorithm_22 m p rho t1 hr hcfg h.1 h.2⟩

theorem skEncode_ok (m : Mode) (p : ParamSet) (he : p.eta = 2 ∨ p.eta = 4) (bl : Nat) (hbl : bitLen m (2 * p.eta) = .ok bl)
    (hcfg : p.skLen = 128 + 32 * ((p.k + p.l) * bl + D.toNat * p.k)) (s : SkParts)
    (hr : s.rho.length = 32) (hk : s.key.length = 32) (ht : s.tr.length = 64)
    (h1 : VecIn p.l (-p.eta) p.eta s.s1) (h2 : VecIn p.k (-p.eta) p.eta s.s2) (h0 : VecIn p.k (-(top - 1)) top s.t0) :
    ∃ out, skEncode m p s = .ok out ∧ out.length = p.skLen := by
  refine ⟨_, skEncode_is_algorithm_24 m p he bl hbl hcfg s hr hk ht h1 h2 h0, ?_⟩
  rw [spec_skEncode_length hr hk ht h1.1.1 h2.1.1 h0.1.1, hcfg, D_toNat, ← skLen_eq]

theorem pkDecode_ok (m : Mode) (p : ParamSet) (pk : List Nat) (hb : ∀ x ∈ pk, x < 256)
    (hlen : pk.length = 32 + 32 * p.k * blqd) (hcfg : p.pkLen = 32 + 32 * p.k * blqd) :
    ∃ d : PkParts, pkDecode m p pk = .ok (some d) ∧ d.rho = pk.take 32 ∧ d.t1.length = p.k ∧
      ∀ q ∈ d.t1, q.length = 256 ∧ ∀ c ∈ q, 0 ≤ c ∧ c ≤ 1023 := by
  have hbw : ∀ x ∈ pk.drop 32, x < 256 := fun x hx => hb x (List.mem_of_mem_drop hx)
  have hv := spec_pkDecode_in p.k pk hbw (hlen.trans (pkLen_eq p.k))
  exact ⟨_, pkDecode_is_algorithm_23 m p pk hbw hlen hcfg, rfl, hv.1.1, fun q hq => ⟨hv.1.2 q hq, hv.2 q hq⟩⟩

theorem pkEncode_pkDecode (m : Mode) (p : ParamSet) (pkb : List Nat) (hb : ∀ x ∈ pkb, x < 256)
    (hlen : pkb.length = 32 + 32 * p.k * blqd) (hcfg : p.pkLen = 32 + 32 * p.k * blqd) (d : PkParts)
    (hdec : pkDecode m p pkb = .ok (some d)) : pkEncode m p d.rho d.t1 = .ok pkb := by
  have hl : pkb.length = 32 + p.k * (32 * 10) := hlen.trans (pkLen_eq p.k)
  have hbw : ∀ x ∈ pkb.drop 32, x < 256 := fun x hx => hb x (List.mem_of_mem_drop hx)
  have hv := spec_pkDecode_in p.k pkb hbw hl
  rw [pkDecode_is_algorithm_23 m p pkb hbw hlen hcfg] at hdec
  cases hdec
  rw [pkEncode_is_algorithm_22 m p _ _ (by simp [Spec.pkDecode]; omega) hcfg hv.1 hv.2, spec_pkEncode_pkDecode p.k pkb hb hl]

theorem pkDecode_pkEncode (m : Mode) (p : ParamSet) (hcfg : p.pkLen = 32 + 32 * p.k * blqd) (rho : List Nat) (t1 : List Poly)
    (hr : rho.length = 32) (ht : VecIn p.k 0 1023 t1) (pkb : List Nat) (henc : pkEncode m p rho t1 = .ok pkb) :
    pkb.length = p.pkLen ∧ pkDecode m p pkb = .ok (some { rho := rho, t1 := t1 }) := by
  rw [pkEncode_is_algorithm_22 m p rho t1 hr hcfg ht.1 ht.2] at henc
  cases henc
  have hl : (Spec.pkEncode rho t1).length = 32 + 32 * p.k * blqd := by rw [spec_pkEncode_length hr ht.1.1, pkLen_eq]
  exact ⟨by rw [hl, hcfg],
    by rw [pkDecode_is_algorithm_23 m p _ (spec_pkEncode_tail_lt hr) hl hcfg, spec_pkDecode_pkEncode p.k rho t1 hr ht]⟩

/-- the `i`-th `bl`-bit field of a byte string read as a little-endian number -/
def fieldAt (bl : Nat) (v : List Nat) (i : Nat) : Nat := (numF 256 v / (2 ^ bl) ^ i) % 2 ^ bl

def fieldsOk (bl : Nat) (v : List Nat) (lim : Nat) : Bool := (List.range 256).all (fun i => decide (fieldAt bl v i ≤ lim))

theorem unfld_inR (a b : Int) (ha : 0 ≤ a) (hb : 0 ≤ b) (d : Nat) :
    (decide (unfld a b d ≥ -a) && decide (unfld a b d ≤ b)) = decide (d ≤ (a + b).toNat) := by
  rw [Bool.eq_iff_iff]
  simp only [Bool.and_eq_true, decide_eq_true_eq]
  unfold unfld
  split <;> omega

theorem fieldsOk_eq (a b : Int) (bl : Nat) (ha : 0 ≤ a) (hb : 0 ≤ b) (v : List Nat) :
    fieldsOk bl v (a + b).toNat = inR a b (decodeP a b bl v) := by
  unfold fieldsOk inR decodeP
  rw [digits_eq_map, List.map_map, List.all_map]
  congr 1
  funext i
  exact (unfld_inR a b ha hb _).symm

/-- the field test of the private-key sections `s1` and `s2`: every `bitlen(2 eta)`-bit field is at most `2 eta`,
    i.e. encodes a coefficient `eta - field` inside `[-eta, eta]` -/
def skFieldsOk (p : ParamSet) (bl : Nat) (skb : List Nat) : Bool :=
  (List.range p.l).all (fun i => fieldsOk bl ((skb.drop (128 + i * (32 * bl))).take (32 * bl)) (p.eta + p.eta).toNat) &&
  (List.range p.k).all (fun i => fieldsOk bl ((skb.drop (128 + p.l * (32 * bl) + i * (32 * bl))).take (32 * bl)) (p.eta + p.eta).toNat)

theorem skFieldsOk_eq (p : ParamSet) (he : 0 < p.eta) (bl : Nat) (skb : List Nat) (hb : ∀ x ∈ skb.drop 128, x < 256)
    (hlen : skb.length = 128 + p.l * (32 * bl) + p.k * (32 * bl) + p.k * (32 * 13)) :
    skFieldsOk p bl skb = (Spec.allInRange p.eta p.eta (Spec.skDecode bl p.eta p.k p.l skb).2.2.2.1 &&
      Spec.allInRange p.eta p.eta (Spec.skDecode bl p.eta p.k p.l skb).2.2.2.2.1) := by
  obtain ⟨e1, e2, _⟩ := spec_skDecode_vecs bl p.eta (by omega) p.k p.l skb hb hlen
  unfold skFieldsOk Spec.allInRange
  simp only [fieldsOk_eq p.eta p.eta bl (by omega) (by omega)]
  rw [e1, e2, List.all_map, List.all_map]
  rfl

/-- **`sk_decode` succeeds exactly on the byte strings whose `s1`/`s2` fields are all in range** (C10, both directions),
    in both build modes and never with a fault -/
theorem skDecode_decision (m : Mode) (p : ParamSet) (skb : List Nat) (hb : ∀ x ∈ skb, x < 256)
    (he : p.eta = 2 ∨ p.eta = 4) (bl : Nat) (hbl : bitLen m (2 * p.eta) = .ok bl)
    (hlen : skb.length = 128 + 32 * ((p.k + p.l) * bl + D.toNat * p.k)) (hcfg : p.skLen = skb.length) :
    ∃ parts, skDecode m p skb = .ok (if skFieldsOk p bl skb then some parts else none) := by
  have hbw : ∀ x ∈ skb.drop 128, x < 256 := fun x hx => hb x (List.mem_of_mem_drop hx)
  rw [skDecode_is_algorithm_25 m p skb hbw he bl hbl hlen hcfg,
    skFieldsOk_eq p (by omega) bl skb hbw (by rw [hlen, D_toNat, skLen_eq])]
  exact ⟨_, rfl⟩

theorem skEncode_skDecode (m : Mode) (p : ParamSet) (skb : List Nat) (hb : ∀ x ∈ skb, x < 256)
    (he : p.eta = 2 ∨ p.eta = 4) (bl : Nat) (hbl : bitLen m (2 * p.eta) = .ok bl)
    (hlen : skb.length = 128 + 32 * ((p.k + p.l) * bl + D.toNat * p.k)) (hcfg : p.skLen = skb.length)
    (s : SkParts) (hdec : skDecode m p skb = .ok (some s)) : skEncode m p s = .ok skb := by
  have hbw : ∀ x ∈ skb.drop 128, x < 256 := fun x hx => hb x (List.mem_of_mem_drop hx)
  have hl : skb.length = 128 + p.l * (32 * bl) + p.k * (32 * bl) + p.k * (32 * 13) := by rw [hlen, D_toNat, skLen_eq]
  rw [skDecode_is_algorithm_25 m p skb hbw he bl hbl hlen hcfg] at hdec
  obtain ⟨hr, hs⟩ := Option.ite_none_right_eq_some.mp (ok_inj hdec)
  obtain rfl := Option.some.inj hs
  obtain ⟨v1, v2, v0⟩ := spec_skDecode_in bl p.eta (by omega) p.k p.l skb hbw hl hr
  rw [skEncode_is_algorithm_24 m p he bl hbl (by rw [hcfg, hlen]) _ (by simp [Spec.skDecode]; omega)
    (by simp [Spec.skDecode]; omega) (by simp [Spec.skDecode]; omega) v1 v2 (by rw [top_eq]; exact v0)]
  exact congrArg Except.ok (spec_skEncode_skDecode bl p.eta p.k p.l skb hb hl)

theorem skDecode_skEncode (m : Mode) (p : ParamSet) (he : p.eta = 2 ∨ p.eta = 4) (bl : Nat) (hbl : bitLen m (2 * p.eta) = .ok bl)
    (hcfg : p.skLen = 128 + 32 * ((p.k + p.l) * bl + D.toNat * p.k)) (s : SkParts)
    (hr : s.rho.length = 32) (hk : s.key.length = 32) (ht : s.tr.length = 64)
    (h1 : VecIn p.l (-p.eta) p.eta s.s1) (h2 : VecIn p.k (-p.eta) p.eta s.s2) (h0 : VecIn p.k (-(top - 1)) top s.t0)
    (skb : List Nat) (henc : skEncode m p s = .ok skb) : skDecode m p skb = .ok (some s) := by
  rw [skEncode_is_algorithm_24 m p he bl hbl hcfg s hr hk ht h1 h2 h0] at henc
  cases henc
  have hol := spec_skEncode_length (c := bl) (eta := p.eta) hr hk ht h1.1.1 h2.1.1 h0.1.1
  rw [skLen_eq] at hol
  rw [top_eq] at h0
  rw [skDecode_is_algorithm_25 m p _ (spec_skEncode_tail_lt hr hk ht) he bl hbl (by rw [hol, D_toNat]) (by rw [hol, hcfg, D_toNat]),
    spec_skDecode_skEncode bl p.eta (by omega) (pair_eta m p.eta bl he hbl).fit p.k p.l _ _ _ _ _ _ hr hk ht h1 h2 h0]
  dsimp only
  rw [if_pos (by
    rw [Bool.and_eq_true]
    exact ⟨List.all_eq_true.mpr fun q hq => (inR_iff ..).mpr (h1.2 q hq), List.all_eq_true.mpr fun q hq => (inR_iff ..).mpr (h2.2 q hq)⟩)]

theorem sigDecode_some (m : Mode) (p : ParamSet) (blz : Nat) (cfg : SigCfg p blz) (sigma : List Nat) (hb : ∀ x ∈ sigma.drop p.lambdaDiv4, x < 256)
    (hlen : sigma.length = p.sigLen) (ct : List Nat) (z h : List Poly) (hdec : sigDecode m p sigma = .ok (some (ct, z, h))) :
    ct = (Spec.sigDecode p.lambdaDiv4 p.l p.k p.omega.toNat blz p.gamma1 sigma).1 ∧
      z = (Spec.sigDecode p.lambdaDiv4 p.l p.k p.omega.toNat blz p.gamma1 sigma).2.1 ∧
      (Spec.sigDecode p.lambdaDiv4 p.l p.k p.omega.toNat blz p.gamma1 sigma).2.2 = some h := by
  rw [sigDecode_is_algorithm_27 m p blz cfg sigma hb hlen] at hdec
  dsimp only at hdec
  split at hdec
  · cases hdec
  · next h' hd =>
    simp only [Except.ok.injEq, Option.some.injEq, Prod.mk.injEq] at hdec
    obtain ⟨rfl, rfl, rfl⟩ := hdec
    exact ⟨rfl, rfl, hd⟩

theorem sigDecode_ok (m : Mode) (p : ParamSet) (blz : Nat) (cfg : SigCfg p blz) (sigma : List Nat) (hb : ∀ x ∈ sigma, x < 256)
    (hlen : sigma.length = p.sigLen) :
    ∃ r, sigDecode m p sigma = .ok r ∧ ∀ ct z h, r = some (ct, z, h) →
      ct.length = p.lambdaDiv4 ∧ z.length = p.l ∧ (∀ q ∈ z, q.length = 256 ∧ ∀ c ∈ q, -(p.gamma1 - 1) ≤ c ∧ c ≤ p.gamma1) ∧
      h.length = p.k ∧ ∀ q ∈ h, Bin q := by
  have hbw : ∀ x ∈ sigma.drop p.lambdaDiv4, x < 256 := fun x hx => hb x (List.mem_of_mem_drop hx)
  have h27 := sigDecode_is_algorithm_27 m p blz cfg sigma hbw hlen
  refine ⟨_, h27, fun ct z h e => ?_⟩
  obtain ⟨rfl, rfl, hd⟩ := sigDecode_some m p blz cfg sigma hbw hlen ct z h (e ▸ h27)
  obtain ⟨hct, hz, hsh, hbin, _⟩ := spec_sigDecode_in p.lambdaDiv4 p.l p.k p.omega.toNat blz p.gamma1 cfg.gamma1_gt.1 cfg.pow cfg.omk sigma hb
    (hlen.trans cfg.len) h hd
  exact ⟨hct, hz.1.1, fun q hq => ⟨hz.1.2 q hq, hz.2 q hq⟩, hsh.1, hbin⟩

theorem sigEncode_sigDecode (m : Mode) (p : ParamSet) (blz : Nat) (cfg : SigCfg p blz) (sigma : List Nat) (hb : ∀ x ∈ sigma, x < 256)
    (hlen : sigma.length = p.sigLen) (ct : List Nat) (z h : List Poly) (hdec : sigDecode m p sigma = .ok (some (ct, z, h))) :
    sigEncode m false p ct z h = .ok sigma := by
  obtain ⟨rfl, rfl, hd⟩ := sigDecode_some m p blz cfg sigma (fun x hx => hb x (List.mem_of_mem_drop hx)) hlen ct z h hdec
  obtain ⟨hct, hz, hsh, hbin, hw⟩ := spec_sigDecode_in p.lambdaDiv4 p.l p.k p.omega.toNat blz p.gamma1 cfg.gamma1_gt.1 cfg.pow cfg.omk sigma hb
    (hlen.trans cfg.len) h hd
  rw [sigEncode_is_algorithm_26 m p blz cfg _ _ h hct hz.1 hz.2 hsh hbin hw]
  exact congrArg Except.ok (spec_sigEncode_sigDecode p.lambdaDiv4 p.l p.k p.omega.toNat blz p.gamma1 cfg.omk sigma hb (hlen.trans cfg.len) h hd)

theorem sigEncode_facts (m : Mode) (p : ParamSet) (blz : Nat) (cfg : SigCfg p blz) (ct : List Nat) (z h : List Poly)
    (hct : ct.length = p.lambdaDiv4) (hz : Sh p.l z) (hzr : ∀ q ∈ z, ∀ c ∈ q, -(p.gamma1 - 1) ≤ c ∧ c ≤ p.gamma1)
    (hh : Sh p.k h) (hb : ∀ q ∈ h, Bin q) (hsum : onesAll h ≤ p.omega.toNat) (sig : List Nat)
    (henc : sigEncode m false p ct z h = .ok sig) :
    sig.length = p.sigLen ∧ ((∀ b ∈ ct, b < 256) → ∀ b ∈ sig, b < 256) ∧ sigDecode m p sig = .ok (some (ct, z, h)) := by
  have hpow := cfg.pow
  rw [sigEncode_is_algorithm_26 m p blz cfg ct z h hct hz hzr hh hb hsum] at henc
  cases henc
  obtain ⟨yl, yb, _⟩ := spec_hintBitUnpack_hintBitPack p.omega.toNat p.k h cfg.omk.2 hh.1 hb hsum
  have hl : (Spec.sigEncode blz p.gamma1 p.omega.toNat ct z h).length = p.sigLen := by
    rw [spec_sigEncode_length hct hz.1 yl, cfg.len]
  refine ⟨hl, fun hcb => spec_sigEncode_lt hcb yb, ?_⟩
  · rw [sigDecode_is_algorithm_27 m p blz cfg _ (spec_sigEncode_tail_lt hct yb) hl,
      spec_sigDecode_sigEncode p.lambdaDiv4 p.l p.k p.omega.toNat blz p.gamma1 cfg.gamma1_gt.1 (by omega) cfg.omk ct z h hct ⟨hz, hzr⟩ hh.1 hb hsum]

theorem skDecode_accepts (m : Mode) (p : ParamSet) (skb : List Nat) (s : SkParts) (he : 0 ≤ p.eta ∧ p.eta ≤ 2147483647)
    (h : skDecode m p skb = .ok (some s)) :
    s.rho.length = 32 ∧ VecIn p.l (-p.eta) p.eta s.s1 ∧ VecIn p.k (-p.eta) p.eta s.s2 ∧ VecIn p.k (-4095) 4096 s.t0 := by
  simp only [skDecode, bind_eq_ok, pure_eq_ok, Option.exists, reduceCtorEq, and_false, false_or, Option.some.injEq] at h
  -- in the order of the model's text: assert eta, bitlen, assert size, the slices `rho`, `key`, `tr`, the three sections, assert length
  obtain ⟨_, -, bl, -, _, -, rho, hrho, key, -, tr, -, s1, hr1, s2, hr2, t0, hr3, _, -, rfl⟩ := h
  have l1 := unpackMany_all m _ skb _ _ _ _ _ (fun v t => bitUnpack_range m v _ _ t he) (List.range p.l) [] s1 (fun _ hq => nomatch hq) hr1
  have l2 := unpackMany_all m _ skb _ _ _ _ _ (fun v t => bitUnpack_range m v _ _ t he) (List.range p.k) [] s2 (fun _ hq => nomatch hq) hr2
  have l3 := unpackMany_all m _ skb _ _ _ _ _ (fun v t => bitUnpack_range m v (top - 1) top t (by decide)) (List.range p.k) [] t0
    (fun _ hq => nomatch hq) hr3
  rw [List.length_nil, List.length_range, Nat.zero_add] at l1 l2 l3
  obtain ⟨hc, rfl⟩ := (slice_eq_ok ..).mp hrho
  exact ⟨by rw [List.length_take, List.length_drop]; omega, VecIn.of_polys l1.1 l1.2, VecIn.of_polys l2.1 l2.2, VecIn.of_polys l3.1 l3.2⟩

end Fips204.Impl
