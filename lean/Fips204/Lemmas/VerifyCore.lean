import Fips204.Lemmas.MulPipeline
import Fips204.Lemmas.NttContracts
/-! The verifier's arithmetic core `w'_Approx = NTT^-1(A_hat ∘ NTT(z) - NTT(c) ∘ NTT(t1 * 2^d))` as the crate computes it
    equals the exact modulo-q formula, coefficient for coefficient. -/
namespace Fips204.Impl
open Fips204 Fips204.Gen Fips204.K

/-- one row of `NTT^-1(A_hat ∘ NTT(z) - NTT(c) ∘ NTT(t1 * 2^13))` with exact arithmetic modulo q, canonical representatives -/
def wRowS (row z : List Poly) (c t : Poly) : Poly :=
  canon ((invS 8 1 (List.zipWith (fun a b => a - b) (rowS row z zeroPoly)
    (List.zipWith (fun x y => x * y) (nttS 8 1 c) (nttS 8 1 (t.map (fun x => 8192 * x)))))).map (fun x => FS * x))

def wApproxS (aHat : List (List Poly)) (z : List Poly) (c : Poly) (t1 : List Poly) : List Poly :=
  List.zipWith (fun row t => wRowS row z c t) aHat t1

theorem wApproxS_can (aHat : List (List Poly)) (z : List Poly) (c : Poly) (t1 : List Poly) :
    ∀ wp ∈ wApproxS aHat z c t1, Res wp := by
  intro wp hwp
  unfold wApproxS at hwp
  obtain ⟨row, _, t, _, e⟩ := exists_of_mem_zipWith _ _ _ wp hwp
  rw [e]
  exact canon_can _

theorem wApproxS_in (k : Nat) (aHat : List (List Poly)) (z : List Poly) (c : Poly) (t1 : List Poly)
    (hA : MatSh k aHat) (hz : ∀ u ∈ z, u.length = 256) (hc : c.length = 256) (ht1 : Sh k t1) :
    VecIn k 0 8380416 (wApproxS aHat z c t1) := by
  refine .of_polys (by unfold wApproxS; rw [List.length_zipWith, hA.1, ht1.1]; exact Nat.min_self _) fun q hq => ?_
  refine ⟨?_, wApproxS_can aHat z c t1 q hq⟩
  unfold wApproxS at hq
  obtain ⟨row, hrow, t, ht, e⟩ := exists_of_mem_zipWith _ _ _ q hq
  rw [e]
  refine invC_length _ ?_
  rw [List.length_zipWith, List.length_zipWith, rowS_length row z (hA.2 row hrow) hz, nttS_length 8 1 c (by rw [hc]),
    nttS_length 8 1 _ (by rw [List.length_map, ht1.2 t ht])]
  rfl

/-- **the verifier's core equals the exact formula**: for every canonical matrix, every response vector with
    coefficients up to `2^19`, every challenge and every `t1`, the lazy pipeline on the stored precompute returns
    `NTT^-1(A_hat ∘ NTT(z) - NTT(c) ∘ NTT(t1 * 2^13))` computed with exact arithmetic modulo q -/
theorem wApproxOf_spec (m : Mode) (aHat : List (List Poly)) (z : List Poly) (c : Poly) (t1 : List Poly)
    (hA : ∀ row ∈ aHat, row.length ≤ 7 ∧ ∀ p ∈ row, Res p) (hz : ∀ w ∈ z, Bnd 524288 w) (hc : Bnd 524288 c)
    (ht : ∀ q ∈ t1, ∀ x ∈ q, 0 ≤ x ∧ x ≤ 1023) :
    ∃ t1d2, precomputeT1 m t1 = .ok t1d2 ∧ wApproxOf m aHat z c t1d2 = .ok (wApproxS aHat z c t1) := by
  obtain ⟨t1d2, hpre, hS⟩ := precomputeT1_stored m t1 ht
  obtain ⟨zHat, hzh, bzh⟩ := ntt_ok m z hz
  obtain ⟨ch, hch, bch, cch⟩ := nttPoly_sem m c c (CongL.refl c) hc
  refine ⟨t1d2, hpre, ?_⟩
  rw [wApproxOf_eq m aHat z zHat c ch t1d2 7 hzh (fun w hw => (bzh w hw).mono (by decide)) hch bch hA (by decide) hS.bnd]
  -- row by row the subtraction is congruent to the exact one, so the canonical inverse transforms are equal
  have hl := hS.1
  rw [List.length_map] at hl
  refine congrArg _ (List.ext_getElem (by simp [wApproxS, matP, hl]) fun i h1 h2 => ?_)
  obtain ⟨ia, it⟩ : i < aHat.length ∧ i < t1.length := by
    rw [wApproxS, List.length_zipWith] at h2
    exact Nat.lt_min.mp h2
  simp only [wApproxS, matP, List.getElem_map, List.getElem_zipWith]
  have h4 := hS.2 i (hl ▸ it) (by rw [List.length_map]; exact it)
  rw [List.getElem_map] at h4
  have haz := rowP_rowS aHat[i] (toMontP zHat) z zeroPoly zeroPoly (hA _ (List.getElem_mem _)).2 (toMontP_ntt_stored m z zHat hzh hz) (CongL.refl _)
  exact invC_eq_of_cong (diff_step_cong _ _ ch (nttS 8 1 c) _ (nttS 8 1 (t1[i].map (fun x => 8192 * x))) haz cch h4.2 bch h4.1)

/-! ### what the exact specifications of key generation and signing are written with

    `tRowS` (a row of `t = A s1 + s2`), `commitS` (`w = A y`), both `invC` (`Lemmas/NttBounds`) of a row sum, and `cmul`
    (`c * s` in the ring, `Lemmas/NttMul`) are the terms of `keygenSpec` and `attemptSpec`.  They stand here, below the modules that walk the
    model's functions, so that the algebra over them (`Lemmas/RingIdentity`, `Lemmas/RecoverW1`) does not depend on those walks. -/

theorem cmul_length (c s : Poly) (lc : c.length = 256) (ls : s.length = 256) : (cmul c s).length = 256 := by
  unfold cmul canon
  rw [List.length_map, negMul_length c s lc ls]

theorem cmul_sh {n : Nat} {s : List Poly} (c : Poly) (lc : c.length = 256) (hs : Sh n s) : Sh n (s.map (cmul c)) := by
  refine ⟨by rw [List.length_map]; exact hs.1, fun q hq => ?_⟩
  obtain ⟨u, hu, rfl⟩ := List.mem_map.mp hq
  exact cmul_length c u lc (hs.2 u hu)

theorem cmul_in {n : Nat} {s : List Poly} (c : Poly) (lc : c.length = 256) (hs : Sh n s) : VecIn n 0 8380416 (s.map (cmul c)) :=
  ⟨cmul_sh c lc hs, fun q hq => by
    obtain ⟨u, _, rfl⟩ := List.mem_map.mp hq
    exact canon_can _⟩

/-- one row of `t = NTT^-1(A_hat ∘ NTT(s1)) + s2 mod q`, exact arithmetic -/
def tRowS (row : List Poly) (s1 : List Poly) (s2r : Poly) : Poly :=
  List.zipWith (fun a b => (a + b) % Q) (canon ((invS 8 1 (rowS row s1 zeroPoly)).map (fun x => FS * x))) s2r


theorem tRowS_length (row s1 : List Poly) (s2r : Poly) (hrow : ∀ a ∈ row, a.length = 256) (hs1 : ∀ u ∈ s1, u.length = 256)
    (ls2 : s2r.length = 256) : (tRowS row s1 s2r).length = 256 := by
  unfold tRowS
  rw [List.length_zipWith, ← invC, invC_length _ (rowS_length row s1 hrow hs1), ls2]
  rfl

theorem tRowS_in {k : Nat} {aHat : List (List Poly)} {s1 s2 : List Poly} (hA : MatSh k aHat) (hs1 : ∀ u ∈ s1, u.length = 256) (hs2 : Sh k s2) :
    VecIn k 0 8380416 (List.zipWith (fun row s2r => tRowS row s1 s2r) aHat s2) := by
  refine .of_polys (by rw [List.length_zipWith, hA.1, hs2.1]; exact Nat.min_self _) fun q hq => ?_
  obtain ⟨row, hrow, s2r, hs2r, hqe⟩ := exists_of_mem_zipWith _ _ _ q hq
  rw [hqe]
  refine ⟨tRowS_length row s1 s2r (hA.2 row hrow) hs1 (hs2.2 s2r hs2r), fun x hx => ?_⟩
  unfold tRowS at hx
  obtain ⟨a, _, b, _, rfl⟩ := exists_of_mem_zipWith _ _ _ x hx
  simp only [Q]
  omega

/-- `w = NTT^-1(A_hat ∘ NTT(y))`, canonical representatives -/
def commitS (aHat : List (List Poly)) (y : List Poly) : List Poly :=
  aHat.map (fun row => canon ((invS 8 1 (rowS row y zeroPoly)).map (fun x => FS * x)))


theorem commitS_length (aHat : List (List Poly)) (y : List Poly) : (commitS aHat y).length = aHat.length := by
  rw [commitS, List.length_map]

theorem commitS_getElem (aHat : List (List Poly)) (y : List Poly) (i : Nat) (h : i < (commitS aHat y).length) :
    (commitS aHat y)[i] = invC (rowS (aHat[i]'(by rw [commitS_length] at h; exact h)) y zeroPoly) := by
  simp only [commitS, invC, List.getElem_map]

theorem commitS_sh {k : Nat} {aHat : List (List Poly)} {y : List Poly} (hA : MatSh k aHat) (hy : ∀ u ∈ y, u.length = 256) :
    Sh k (commitS aHat y) := by
  refine ⟨by rw [commitS_length, hA.1], fun q hq => ?_⟩
  obtain ⟨row, hrow, rfl⟩ := List.mem_map.mp hq
  exact invC_length _ (rowS_length row y (hA.2 row hrow) hy)

theorem commitS_in {k : Nat} {aHat : List (List Poly)} {y : List Poly} (hA : MatSh k aHat) (hy : ∀ u ∈ y, u.length = 256) :
    VecIn k 0 8380416 (commitS aHat y) :=
  ⟨commitS_sh hA hy, fun q hq => by
    obtain ⟨row, _, rfl⟩ := List.mem_map.mp hq
    exact canon_can _⟩

end Fips204.Impl
