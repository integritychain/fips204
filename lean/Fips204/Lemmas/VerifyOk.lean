import Fips204.Lemmas.Encodings
import Fips204.Lemmas.NttContracts
import Fips204.Lemmas.SampleInBall
import Fips204.Lemmas.Samplers
/-! **`verify_internal` never panics**: composition of the decoder, sampler, NTT-pipeline, hint and encoder lemmas.  `normInfS` is the
    exact value of `infinity_norm` and the norm the exact specifications of signing and verification are written with. -/
namespace Fips204.Impl
open Fips204 Fips204.Gen Fips204.K

/-- what the verifier needs of a public-key struct; every struct `expand_public` returns has it -/
structure PkOk (p : ParamSet) (pk : PublicKey) : Prop where
  rho : pk.rho.length = 32
  sh : Sh p.k pk.t1d2
  bnd : ∀ w ∈ pk.t1d2, Bnd 16760833 w

theorem expandPublic_eq (m : Mode) (O : Oracles) (p : ParamSet) (pkb : List Nat) (hb : ∀ x ∈ pkb, x < 256)
    (hlen : pkb.length = 32 + 32 * p.k * blqd) (hcfg : p.pkLen = 32 + 32 * p.k * blqd) :
    ∃ d r, pkDecode m p pkb = .ok (some d) ∧ precomputeT1 m d.t1 = .ok r ∧ expandPublic m O p pkb = .ok (some ⟨d.rho, O.h pkb 64, r⟩) ∧
      d.rho = pkb.take 32 ∧ VecIn p.k 0 1023 d.t1 ∧ VecIn p.k (-16760833) 16760833 r := by
  obtain ⟨d, hd, hrho, hk, ht⟩ := pkDecode_ok m p pkb hb hlen hcfg
  have vt : VecIn p.k 0 1023 d.t1 := .of_polys hk ht
  obtain ⟨r, hr, vr⟩ := precomputeT1_c m vt
  exact ⟨d, r, hd, hr, by simp only [expandPublic, hd, ok_bind, hr, pure_eq], hrho, vt, vr⟩

theorem expandPublic_pkOk (m : Mode) (O : Oracles) (p : ParamSet) (pkb : List Nat) (hb : ∀ x ∈ pkb, x < 256)
    (hlen : pkb.length = 32 + 32 * p.k * blqd) (hcfg : p.pkLen = 32 + 32 * p.k * blqd) :
    ∃ pk : PublicKey, expandPublic m O p pkb = .ok (some pk) ∧ PkOk p pk := by
  obtain ⟨d, r, _, _, h, hrho, _, vr⟩ := expandPublic_eq m O p pkb hb hlen hcfg
  exact ⟨_, h, by show d.rho.length = 32; rw [hrho, List.length_take]; omega, vr.1, vr.2⟩

theorem foldl_max_spec (vs : List Int) : ∀ v : Int, v ≤ vs.foldl (fun a b => if a < b then b else a) v ∧
    (∀ x ∈ vs, x ≤ vs.foldl (fun a b => if a < b then b else a) v) ∧
    (vs.foldl (fun a b => if a < b then b else a) v = v ∨ vs.foldl (fun a b => if a < b then b else a) v ∈ vs) := by
  induction vs with
  | nil => intro v; exact ⟨Int.le_refl _, by simp, Or.inl rfl⟩
  | cons y ys ih =>
    intro v
    rw [List.foldl_cons]
    by_cases hvy : v < y
    · rw [if_pos hvy]
      obtain ⟨h1, h2, h3⟩ := ih y
      refine ⟨by omega, fun x hx => ?_, Or.inr (h3.elim (fun h => by rw [h]; exact List.mem_cons_self ..) (List.mem_cons_of_mem _))⟩
      rcases List.mem_cons.mp hx with rfl | hx
      · exact h1
      · exact h2 x hx
    · rw [if_neg hvy]
      obtain ⟨h1, h2, h3⟩ := ih v
      refine ⟨h1, fun x hx => ?_, h3.imp id (List.mem_cons_of_mem _)⟩
      rcases List.mem_cons.mp hx with rfl | hx
      · omega
      · exact h2 x hx

/-- `‖z‖∞` with centred representatives, as a pure function (0 on the empty vector) -/
def normInfS (z : List Poly) : Int :=
  match z.flatten.map (fun e => absI (modpm Q e)) with
  | [] => 0
  | v :: vs => vs.foldl (fun a b => if a < b then b else a) v

theorem normInfS_is_spec (z : List Poly) : normInfS z = Spec.infNorm z := by
  unfold normInfS Spec.infNorm
  cases hz : z.flatten.map (fun e => absI (modpm Q e)) with
  | nil => rfl
  | cons v vs =>
    simp only [List.foldl_cons]
    have hv : 0 ≤ v := by
      have : v ∈ z.flatten.map (fun e => absI (modpm Q e)) := by rw [hz]; exact List.mem_cons_self
      obtain ⟨e, _, rfl⟩ := List.mem_map.mp this
      exact absI_nonneg _
    rw [show (if (0 : Int) < v then v else 0) = v by split <;> omega]

theorem normInfS_spec (w : List Poly) : 0 ≤ normInfS w ∧ (∀ q ∈ w, ∀ e ∈ q, -normInfS w ≤ modpm Q e ∧ modpm Q e ≤ normInfS w) ∧
    ∀ B, 0 ≤ B → (∀ q ∈ w, ∀ e ∈ q, -B ≤ modpm Q e ∧ modpm Q e ≤ B) → normInfS w ≤ B := by
  have habs : ∀ x : Int, -absI x ≤ x ∧ x ≤ absI x ∧ ∀ B, -B ≤ x ∧ x ≤ B → absI x ≤ B := fun x => by
    rw [absI_eq]; split <;> exact ⟨by omega, by omega, fun B h => by omega⟩
  -- as a running maximum from 0 (`Spec.infNorm`) the empty vector is no special case
  rw [normInfS_is_spec, Spec.infNorm]
  obtain ⟨g1, g2, g3⟩ := foldl_max_spec (w.flatten.map fun e => absI (modpm Q e)) 0
  refine ⟨g1, fun q hq e he => ?_, fun B hB h => ?_⟩
  · have := g2 _ (List.mem_map.mpr ⟨e, List.mem_flatten.mpr ⟨q, hq, he⟩, rfl⟩)
    have := habs (modpm Q e)
    omega
  · rcases g3 with h0 | hm
    · rw [h0]; exact hB
    · obtain ⟨e, he, h'⟩ := List.mem_map.mp hm
      obtain ⟨q, hq, heq⟩ := List.mem_flatten.mp he
      rw [← h']; exact (habs _).2.2 B (h q hq e heq)

theorem normInfS_bound (v : List Poly) (B : Int) (h : normInfS v < B) : ∀ q ∈ v, ∀ x ∈ q, -B < modpm Q x ∧ modpm Q x < B := by
  intro q hq x hx
  have := (normInfS_spec v).2.1 q hq x hx
  omega

theorem infinityNorm_eq (m : Mode) (w : List Poly) (hne : w.flatten.length ≠ 0)
    (hw : ∀ q ∈ w, Bnd 2143289343 q) : infinityNorm m w = .ok (normInfS w) := by
  unfold infinityNorm normInfS
  have hmap := mapM_pure (fun e => do
      let c ← center_mod m e
      arith .i32 m "helpers.rs:infinity_norm:abs" (absI c)) (fun e => absI (modpm Q e)) w.flatten
    (fun e he => by
      obtain ⟨q, hq, heq⟩ := List.mem_flatten.mp he
      have hd := hw q hq e heq
      have hr := modpm_abs e
      rw [center_mod_eq m e (by omega) (by omega), ok_bind]
      exact arith_i32 _ _ _ (by rw [absI_eq]; split <;> omega) (by rw [absI_eq]; split <;> omega))
  rw [hmap, ok_bind]
  cases hfl : w.flatten with
  | nil => rw [hfl] at hne; simp at hne
  | cons e es => simp only [List.map_cons, pure_eq]

theorem infinityNorm_c (m : Mode) {n : Nat} {v : List Poly} (hn : 1 ≤ n) (h : VecIn n (-2143289343) 2143289343 v) :
    infinityNorm m v = .ok (normInfS v) :=
  infinityNorm_eq m v (flatten_ne n v hn h.1) h.bnd

theorem sigDecode_pre (m : Mode) {p : ParamSet} {blz : Nat} (cfg : VerCfg p blz) (sig : List Nat) (hb : ∀ x ∈ sig, x < 256)
    (hlen : sig.length = p.sigLen) :
    ∃ r, sigDecode m p sig = .ok r ∧ ∀ ct z h, r = some (ct, z, h) →
      ct.length = p.lambdaDiv4 ∧ VecIn p.l (-(p.gamma1 - 1)) p.gamma1 z ∧ VecIn p.k 0 1 h ∧ infinityNorm m z = .ok (normInfS z) ∧
      0 ≤ normInfS z ∧ normInfS z ≤ p.gamma1 := by
  obtain ⟨r, hr, hrp⟩ := sigDecode_ok m p blz cfg.sig sig hb hlen
  refine ⟨r, hr, fun ct z h e => ?_⟩
  obtain ⟨c1, c2, c3, c4, c5⟩ := hrp ct z h e
  have hz : VecIn p.l (-(p.gamma1 - 1)) p.gamma1 z := .of_polys c2 c3
  have hg1 := cfg.sig.gamma1_gt
  refine ⟨c1, hz, .of_polys c4 fun q hq => ⟨(c5 q hq).1, fun x hx => by have := (c5 q hq).2 x hx; omega⟩,
    infinityNorm_c m cfg.sig.l1 (hz.mono (by omega) (by omega)), (normInfS_spec z).1, ?_⟩
  refine (normInfS_spec z).2.2 _ (by omega) fun q hq e he => ?_
  have := hz.2 q hq e he
  rw [modpm_small e (by omega)]
  omega

theorem useHintM_eq (m : Mode) {n : Nat} {g : Int} (hg : G2 g) {h wa : List Poly} (hh : VecIn n 0 1 h) (hw : VecIn n 0 8380416 wa) :
    zipWithM (fun hp wp => zipWithM (fun hh r => use_hint m g hh r) hp wp) h wa =
      .ok (List.zipWith (fun hp wp => List.zipWith (fun hh r => Spec.useHint g hh r) hp wp) h wa) :=
  hh.zipWithM₂_eq hw fun a b ha hb => use_hint_eq m g a b hg (by omega) (by omega) (by omega)

/-- `w1' = UseHint(h, w')` is inside the domain of `w1Encode`, whatever `h` and `w'` hold -/
theorem useHint_in {n : Nat} {g lo₁ hi₁ lo₂ hi₂ : Int} (hg : G2 g) {h wa : List Poly} (hh : VecIn n lo₁ hi₁ h) (hw : VecIn n lo₂ hi₂ wa) :
    VecIn n 0 ((Q - 1) / (2 * g) - 1) (List.zipWith (fun hp wp => List.zipWith (fun hh r => Spec.useHint g hh r) hp wp) h wa) :=
  hh.zipWith₂ hw fun a b _ _ => useHint_range g a b hg

/-- **`verify_internal` never panics**: for every oracle, every public-key struct `expand_public` can return, every
    message / context / pre-hash and **every byte string of signature length**, in both build modes, the verifier
    returns a Boolean (or the model runs out of the finite XOF prefix it reads - an outcome the crate does not have) -/
theorem verifyInternal_np (m : Mode) (O : Oracles) (hO : OracleOk O) (ctest : Bool) (p : ParamSet) (blz : Nat) (cfg : VerCfg p blz)
    (pk : PublicKey) (hpk : PkOk p pk) (msg sig ctx oid phm : List Nat) (nist : Bool)
    (hb : ∀ x ∈ sig, x < 256) (hlen : sig.length = p.sigLen) :
    NoPanic (verifyInternal m O ctest p pk msg sig ctx oid phm nist) (fun _ => True) := by
  unfold verifyInternal
  obtain ⟨r, hr, hrp⟩ := sigDecode_pre m cfg sig hb hlen
  rw [hr, ok_bind]
  cases r with
  | none => exact NoPanic.ok _ trivial
  | some t =>
    obtain ⟨ct, z, h⟩ := t
    obtain ⟨_, hz, hh, hn, hn01⟩ := hrp ct z h rfl
    have hg1 := cfg.sig.gamma1_gt
    have hbeta := cfg.beta
    dsimp only
    rw [dassertM_eq m _ _ (by rw [hn, ok_bind, pure_eq]; simp [hn01.2]), ok_bind]
    refine (sampleInBall_np m O hO false p.tau ct cfg.tau).bind fun c hc => ?_
    refine (expandA_np m O hO ctest p pk.rho hpk.rho).bind fun aHat hA => ?_
    refine (NoPanic.of_ok (wApproxOf_c m hA cfg.l7 (hz.mono (by omega) (by omega)) hc ⟨hpk.sh, hpk.bnd⟩)).bind fun wA hwA => ?_
    obtain ⟨w1t, hw1t⟩ := w1Encode_ok m p cfg.g2 _ (useHint_in cfg.G2 hh hwA)
    rw [useHintM_eq m cfg.G2 hh hwA, ok_bind, hw1t, ok_bind, hn, ok_bind, arith_i32 _ _ _ (by omega) (by omega), ok_bind, pure_eq]
    exact NoPanic.ok _ trivial

end Fips204.Impl
