import Fips204.Impl.Sample
import Fips204.Lemmas.Arith
/-! The words the theorems about whole model functions are stated in, and their generic lemmas. -/
namespace Fips204.Impl
open Fips204

theorem ite_rel {α β} (R : α → β → Prop) {c : Prop} [Decidable c] {a a' : α} {b b' : β} (h : c → R a b) (h' : ¬c → R a' b') :
    R (if c then a else a') (if c then b else b') := by
  by_cases hc : c
  · rw [if_pos hc, if_pos hc]
    exact h hc
  · rw [if_neg hc, if_neg hc]
    exact h' hc

/-- the computation returns a value satisfying `P`, or stops with the model-only stream-exhaustion outcome;
    in particular it does **not** panic (overflow, failed assertion, out-of-bounds, unwrap) -/
def NoPanic {α} (r : M α) (P : α → Prop) : Prop := (∃ v, r = .ok v ∧ P v) ∨ (∃ s, r = .error (.fuel s))

theorem NoPanic.ok {α} {P : α → Prop} (v : α) (h : P v) : NoPanic (Except.ok v) P := Or.inl ⟨v, rfl, h⟩

theorem NoPanic.ok_elim {α} {P : α → Prop} {x : M α} {v : α} (h : NoPanic x P) (hx : x = .ok v) : P v := by
  subst hx
  rcases h with ⟨w, hw, hp⟩ | ⟨s, hs⟩
  · cases hw; exact hp
  · cases hs

theorem NoPanic.of_ok {α} {P : α → Prop} {x : M α} (h : ∃ v, x = .ok v ∧ P v) : NoPanic x P := Or.inl h

theorem NoPanic.bind {α β} {x : M α} {f : α → M β} {P : α → Prop} {Q : β → Prop} (hx : NoPanic x P)
    (hf : ∀ v, P v → NoPanic (f v) Q) : NoPanic (x >>= f) Q := by
  rcases hx with ⟨v, rfl, hv⟩ | ⟨s, rfl⟩
  · rw [ok_bind]; exact hf v hv
  · rw [error_bind]; exact Or.inr ⟨s, rfl⟩

theorem NoPanic.mono {α} {x : M α} {P Q : α → Prop} (hx : NoPanic x P) (h : ∀ v, P v → Q v) : NoPanic x Q := by
  rcases hx with ⟨v, rfl, hv⟩ | ⟨s, rfl⟩
  · exact Or.inl ⟨v, rfl, h v hv⟩
  · exact Or.inr ⟨s, rfl⟩

theorem NoPanic.ite {α} {c : Prop} [Decidable c] {x y : M α} {P : α → Prop} (hx : NoPanic x P) (hy : NoPanic y P) :
    NoPanic (if c then x else y) P := by
  split
  · exact hx
  · exact hy

theorem bind_congr_on {α β} {x : M α} {f g : α → M β} {P : α → Prop} (hx : NoPanic x P) (h : ∀ v, P v → f v = g v) :
    (x >>= f) = (x >>= g) := by
  rcases hx with ⟨v, rfl, hv⟩ | ⟨s, rfl⟩
  · rw [ok_bind, ok_bind]; exact h v hv
  · rw [error_bind, error_bind]

/-- `x` does not panic, what it returns satisfies `P`, and continued with `g` it is the computation `y`: the two things a walk
    through a model function establishes, step by step, at once.  `y` is a specification in `M` (it runs the model's samplers and
    encoders), so the equality alone would not exclude a fault, and `P` carries what the equality forgets (the uncentred response). -/
def Sim {α β} (g : α → M β) (P : α → Prop) (x : M α) (y : M β) : Prop := NoPanic x P ∧ (x >>= g) = y

theorem Sim.bind' {α β γ} {g : β → M γ} {P : β → Prop} {s : M α} {Q : α → Prop} {k : α → M β} {k' : α → M γ}
    (hs : NoPanic s Q) (h : ∀ v, s = .ok v → Q v → Sim g P (k v) (k' v)) : Sim g P (s >>= k) (s >>= k') := by
  rcases hs with ⟨v, hv, hq⟩ | ⟨e, he⟩
  · rw [hv, ok_bind, ok_bind]
    exact h v hv hq
  · rw [he]
    exact ⟨Or.inr ⟨e, rfl⟩, rfl⟩

theorem Sim.bind {α β γ} {g : β → M γ} {P : β → Prop} {s : M α} {Q : α → Prop} {k : α → M β} {k' : α → M γ}
    (hs : NoPanic s Q) (h : ∀ v, Q v → Sim g P (k v) (k' v)) : Sim g P (s >>= k) (s >>= k') :=
  Sim.bind' hs fun v _ => h v

theorem Sim.step {α β γ} {g : β → M γ} {P : β → Prop} {s : M α} {v : α} {k : α → M β} {y : M γ} (hs : s = .ok v)
    (h : Sim g P (k v) y) : Sim g P (s >>= k) y := by
  rw [hs, ok_bind]
  exact h

theorem Sim.step₂ {α β γ} {g : β → M γ} {P : β → Prop} {s : M α} {v : α} {k : α → M β} {k' : α → M γ} (hs : s = .ok v)
    (h : Sim g P (k v) (k' v)) : Sim g P (s >>= k) (s >>= k') := by
  rw [hs, ok_bind, ok_bind]
  exact h

theorem Sim.ite {α β} {g : α → M β} {P : α → Prop} {c : Prop} [Decidable c] {x x' : M α} {y y' : M β}
    (h : c → Sim g P x y) (h' : ¬c → Sim g P x' y') : Sim g P (if c then x else x') (if c then y else y') :=
  ite_rel (Sim g P) h h'

theorem Sim.comp {α β γ δ} {g : β → M γ} {P : β → Prop} {x : M α} {y : M δ} {g₁ : α → M δ} {Q : α → Prop} {k : α → M β} {k' : δ → M γ}
    (h₁ : Sim g₁ Q x y) (h : ∀ a, Q a → Sim g P (k a) (g₁ a >>= k')) : Sim g P (x >>= k) (y >>= k') :=
  ⟨h₁.1.bind fun a ha => (h a ha).1, by
    rw [bind_assoc, bind_congr_on h₁.1 (fun a ha => (h a ha).2), ← bind_assoc, h₁.2]⟩

theorem Sim.ok {α β} {g : α → M β} {P : α → Prop} (a : α) {y : M β} (hP : P a) (hg : g a = y) : Sim g P (.ok a) y :=
  ⟨NoPanic.ok a hP, by rw [ok_bind]; exact hg⟩

theorem Sim.refl {α} {P : α → Prop} {x : M α} (h : NoPanic x P) : Sim pure P x x := ⟨h, bind_pure x⟩

theorem mapM_np {α β} (f : α → M β) (R : β → Prop) :
    ∀ l : List α, (∀ a ∈ l, NoPanic (f a) R) → NoPanic (l.mapM f) (fun l' => l'.length = l.length ∧ ∀ b ∈ l', R b) := by
  intro l
  induction l with
  | nil => intro _; exact Or.inl ⟨[], by rw [List.mapM_nil, pure_eq], rfl, by simp⟩
  | cons a as ih =>
    intro h
    rw [List.mapM_cons]
    refine (h a (List.mem_cons_self ..)).bind (fun b hb => ?_)
    refine (ih (fun x hx => h x (List.mem_cons_of_mem _ hx))).bind (fun bs hbs => ?_)
    rw [pure_eq]
    refine NoPanic.ok _ ⟨by simp [hbs.1], fun x hx => ?_⟩
    rcases List.mem_cons.mp hx with rfl | hx
    · exact hb
    · exact hbs.2 x hx

/-- what the theorems assume of the hash oracles: they return as many bytes as asked for, and bytes are bytes -/
structure OracleOk (O : Oracles) : Prop where
  hlen : ∀ x n, (O.h x n).length = n
  hbyte : ∀ x n, ∀ b ∈ O.h x n, b < 256
  glen : ∀ x n, (O.g x n).length = n
  gbyte : ∀ x n, ∀ b ∈ O.g x n, b < 256

/-- the one property of an extendable-output function `expandMask_is_algorithm_34` uses: asking for fewer bytes gives a prefix -/
def OraclePrefix (O : Oracles) : Prop := ∀ x n k, k ≤ n → (O.h x n).take k = O.h x k

/-- a specification result as a model result: running out of stream is the model-only outcome `Fault.fuel` -/
def ofSpec {α} (site : String) : Option α → M α
  | some a => .ok a
  | none => .error (.fuel site)

theorem NoPanic.of_eq_spec {α} {P : α → Prop} {x : M α} {s : String} {o : Option α} (hx : x = ofSpec s o) (h : ∀ a, o = some a → P a) :
    NoPanic x P := by
  rw [hx]
  cases o with
  | none => exact Or.inr ⟨s, rfl⟩
  | some a => exact NoPanic.ok a (h a rfl)

theorem ofSpec_bind {α β} (site : String) (x : Option α) (f : α → Option β) :
    (ofSpec site x >>= fun a => ofSpec site (f a)) = ofSpec site (x >>= f) := by
  cases x <;> rfl

theorem mapM_ofSpec {α β} (site : String) (f : α → Option β) : ∀ l : List α,
    l.mapM (fun x => ofSpec site (f x)) = ofSpec site (l.mapM f) := by
  intro l
  induction l with
  | nil => rfl
  | cons x xs ih =>
    rw [List.mapM_cons, List.mapM_cons, ih]
    cases f x with
    | none => rfl
    | some b =>
      cases List.mapM f xs with
      | none => rfl
      | some bs => rfl

theorem mapM_some {α β} (g : α → Option β) : ∀ (l : List α) (ys : List β), l.mapM g = some ys →
    ys.length = l.length ∧ ∀ y ∈ ys, ∃ x ∈ l, g x = some y := by
  intro l
  induction l with
  | nil => intro ys h; cases h; exact ⟨rfl, fun y hy => nomatch hy⟩
  | cons x xs ih =>
    intro ys h
    rw [List.mapM_cons] at h
    cases hg : g x with
    | none => rw [hg] at h; cases h
    | some b =>
      cases hm : List.mapM g xs with
      | none => rw [hg, hm] at h; cases h
      | some bs =>
        rw [hg, hm] at h
        cases h
        obtain ⟨hl, hmem⟩ := ih bs hm
        refine ⟨by rw [List.length_cons, List.length_cons, hl], fun y hy => ?_⟩
        rcases List.mem_cons.mp hy with rfl | hy'
        · exact ⟨x, List.mem_cons_self, hg⟩
        · obtain ⟨x', hx', hgx'⟩ := hmem y hy'
          exact ⟨x', List.mem_cons_of_mem _ hx', hgx'⟩

/-- a model result against a specification result: equal values, or the stream prefix ran out on both sides.
    The other "agrees" predicates are this one at a particular result type: `AgreesWith` (below) is `Agrees` at `Bool`, under the name
    the statements of `Props/C02c`, `C02d` use; `AgreesSig` (`Lemmas/SpecSign`) compares a `SignOut`, which also counts attempts, with the
    standard's signature bytes; `AgreesApiSig` (`Lemmas/Api`) adds the error and RNG outcomes of the signing entry points.
    `C13.NoFault` is the stronger "`.ok`, with no alternative", used for kernels that read no stream. -/
def Agrees {α} (r : M α) : Option α → Prop
  | some b => r = .ok b
  | none => ∃ s, r = .error (.fuel s)

/-- `Agrees` at `Bool` (`AgreesWith r o ↔ Agrees r o`, by cases on `o`): a Boolean is returned as such; a stream prefix that ran out
    shows as the model-only outcome `Fault.fuel` -/
def AgreesWith (r : M Bool) : Option Bool → Prop
  | some b => r = .ok b
  | none => ∃ s, r = .error (.fuel s)

theorem AgreesWith.ok_of_some {r : M Bool} {o : Option Bool} {b : Bool} (h : AgreesWith r o) (ho : o = some b) : r = .ok b := by
  subst ho
  exact h

theorem AgreesWith.some_of_ok {r : M Bool} {o : Option Bool} {b : Bool} (h : AgreesWith r o) (hr : r = .ok b) : o = some b := by
  cases o with
  | none =>
    obtain ⟨s, hs⟩ := h
    exact nomatch hr.symm.trans hs
  | some b' => rw [Except.ok.inj (hr.symm.trans h)]

end Fips204.Impl
